/-
  Printable ASCII text: what `asciiPrintable` and `strOk` test, on characters and on the UTF-8 bytes (`strOk_eq_bytes`, over
  `strBytes_ascii` of `Lemmas/Utf8.lean`), `asciiString` read back (`strBytes_asciiString`), and the byte of a digit character
  (`isDigitB_byteOf`, `byteOf_digit_cases`).
-/
import Orbiter.Encode
import Orbiter.Lemmas.Decimal
import Orbiter.Lemmas.Utf8
namespace Orbiter

theorem strBytes_asciiString (l : Bytes) (h : ∀ b ∈ l, b.toNat < 128) : strBytes (asciiString l) = l := by
  rw [strBytes_eq, asciiString, String.toList_ofList, List.flatMap_map,
    flatMap_eq_map (g := id) fun b hb => utf8EncodeChar_ofNat b (h b hb), List.map_id]

theorem asciiPrintable_iff {c : Char} : asciiPrintable c = true ↔ 0x20 ≤ c.toNat ∧ c.toNat < 0x7F := by
  simp [asciiPrintable]

theorem asciiPrintable_of_between {lo hi c : Char} (h : lo ≤ c ∧ c ≤ hi) (hlo : 0x20 ≤ lo.toNat := by decide) (hhi : hi.toNat < 0x7F := by decide) :
    asciiPrintable c = true := by
  have h1 : lo.toNat ≤ c.toNat := h.1
  have h2 : c.toNat ≤ hi.toNat := h.2
  exact asciiPrintable_iff.mpr ⟨by omega, by omega⟩

theorem digit_printable {c : Char} (h : isDigit c = true) : asciiPrintable c = true := by
  simp only [isDigit, Bool.and_eq_true, decide_eq_true_eq] at h
  exact asciiPrintable_of_between h

theorem isDigitB_byteOf {c : Char} (h : isDigit c = true) : isDigitB (byteOf c) = true :=
  digit_ind (P := fun c => isDigitB (byteOf c) = true) (by decide) h

theorem byteOf_digit_ne_minus {c : Char} (h : isDigit c = true) : byteOf c ≠ 45 :=
  digit_ind (P := fun c => byteOf c ≠ 45) (by decide) h

/-- The two tests `scanNumber` makes on a first digit. -/
theorem byteOf_digit_cases {c : Char} (h : isDigit c = true) :
    (c = '0' ∧ byteOf c = 48) ∨ (c ≠ '0' ∧ (byteOf c == 48) = false ∧ (49 ≤ byteOf c && byteOf c ≤ 57) = true) :=
  digit_ind (P := fun c => (c = '0' ∧ byteOf c = 48) ∨ (c ≠ '0' ∧ (byteOf c == 48) = false ∧ (49 ≤ byteOf c && byteOf c ≤ 57) = true))
    (by decide) h

theorem strOk_toNat_lt {s : String} (h : strOk s = true) : ∀ c ∈ s.toList, c.toNat < 128 := fun c hc => by
  have := asciiPrintable_iff.mp (List.all_eq_true.mp h c hc)
  omega

/-- Printable ASCII can be checked on the UTF-8 bytes. For a literal the kernel evaluates the right-hand side in time linear in
its length and the left-hand side (`String.toList`) in quadratic time: `strOk` of a literal is evaluated after rewriting with this
equation. -/
theorem strOk_eq_bytes (s : String) : strOk s = (strBytes s).all fun b => decide (0x20 ≤ b.toNat) && decide (b.toNat < 0x7F) := by
  refine Bool.eq_iff_iff.mpr ⟨fun h => ?_, fun h => List.all_eq_true.mpr fun c hc => asciiPrintable_iff.mpr ?_⟩
  · rw [strBytes_ascii (strOk_toNat_lt h), List.all_map]
    refine List.all_eq_true.mpr fun c hc => ?_
    have := asciiPrintable_iff.mp (List.all_eq_true.mp h c hc)
    simpa [byteOf_toNat (show c.toNat < 256 by omega)] using this
  · obtain ⟨b, rest, hb, hchar⟩ := utf8EncodeChar_head c
    rw [strBytes_eq] at h
    have := List.all_eq_true.mp h b (List.mem_flatMap.mpr ⟨c, hc, by rw [hb]; exact List.mem_cons_self⟩)
    simp only [Bool.and_eq_true, decide_eq_true_eq] at this
    rw [← hchar (by omega)]; exact this

end Orbiter
