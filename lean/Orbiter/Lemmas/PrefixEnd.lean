import Orbiter.Lemmas.Order
/-!
`storetypes.PrefixEndBytes` against the lexicographic order of the store: the exclusive end it computes for a key `k` is
*not* the successor of `k` — it is the successor of everything that starts with `k`.  That is the whole content of the
SDK's reverse key pagination defect (known finding C13): a reverse range that should end *at* `k` ends after every key
that `k` is a proper prefix of.
-/
namespace Orbiter

/-- `prefixEnd` by structural recursion on the key itself (the definition in `Admin.lean` follows the Go loop, from the end). -/
def prefixEndS : Bytes → Option Bytes
  | [] => none
  | x :: xs =>
    match prefixEndS xs with
    | some t => some (x :: t)
    | none => if x == 255 then none else some [x + 1]

theorem prefixEnd_go_snoc (l : List UInt8) (x : UInt8) :
    prefixEnd.go (l ++ [x]) =
      (match prefixEnd.go l with
       | some t => some (t ++ [x])
       | none => if x == 255 then none else some [x + 1]) := by
  induction l with
  | nil => simp [prefixEnd.go]
  | cons y l ih =>
    simp only [List.cons_append, prefixEnd.go]
    by_cases hy : (y == 255) = true
    · simp only [hy, ↓reduceIte, ih]
    · simp only [hy, Bool.false_eq_true, ↓reduceIte, List.cons_append]

theorem prefixEnd_eq_S (k : Bytes) : prefixEnd k = prefixEndS k := by
  induction k with
  | nil => simp [prefixEnd, prefixEnd.go, prefixEndS]
  | cons x xs ih =>
    unfold prefixEnd at ih ⊢
    simp only [List.reverse_cons, prefixEnd_go_snoc, prefixEndS, ← ih]
    cases prefixEnd.go xs.reverse with
    | some t => simp
    | none =>
      by_cases hx : (x == 255) = true
      · simp [hx]
      · simp [hx]

theorem u8_lt_succ {a b : UInt8} (ha : a ≠ 255) : b < a + 1 ↔ b < a ∨ b = a := by
  have ha' : a.toNat ≠ 255 := fun h => ha (UInt8.toNat_inj.mp h)
  have hlt : a.toNat + 1 < 256 := by have := a.toNat_lt; omega
  rw [UInt8.lt_iff_toNat_lt, UInt8.lt_iff_toNat_lt, ← UInt8.toNat_inj, UInt8.toNat_add, show (1 : UInt8).toNat = 1 from rfl,
    Nat.mod_eq_of_lt hlt, Nat.lt_succ_iff, Nat.le_iff_lt_or_eq]

/-- "Not above `k`, or starting with `k`", one byte down: the same of the tails when the first bytes agree. -/
theorem notAbove_or_prefix_cons (a b : UInt8) (ks es : Bytes) :
    (bytesLt (a :: ks) (b :: es) = false ∨ (a :: ks) <+: (b :: es)) ↔
      b < a ∨ (b = a ∧ (bytesLt ks es = false ∨ ks <+: es)) := by
  rw [← Bool.not_eq_true, bytesLt_cons, List.cons_prefix_cons]
  by_cases hab : a = b
  · subst hab
    simp [UInt8.lt_irrefl]
  · rcases UInt8.lt_or_lt_of_ne hab with h | h <;> simp [hab, h, UInt8.not_lt.mpr (UInt8.le_of_lt h), Ne.symm hab]

/-- What the exclusive end computed by `PrefixEndBytes` admits (no end admits everything): everything not above `k`, **and
everything that starts with `k`**. -/
theorem admits_prefixEndS (k e : Bytes) :
    (match prefixEndS k with | some h => bytesLt e h | none => true) = true ↔ (bytesLt k e = false ∨ k <+: e) := by
  induction k generalizing e with
  | nil => simp [prefixEndS]
  | cons a ks ih =>
    cases e with
    | nil =>
      -- an end is never empty, and the empty string is below everything else
      simp only [prefixEndS, bytesLt_nil_right, true_or, iff_true]
      cases prefixEndS ks with
      | some t => rfl
      | none => cases a == 255 <;> rfl
    | cons b es =>
      rw [notAbove_or_prefix_cons, ← ih es]
      simp only [prefixEndS]
      cases prefixEndS ks with
      | some t => simp only [bytesLt_cons]
      | none =>
        -- the tail admits everything: what is left to show is `b ≤ a`, which an end `[a + 1]` says and `a = 255` gives
        by_cases ha : a = 255
        · simp only [ha, beq_self_eq_true, ↓reduceIte, and_true, true_iff, UInt8.lt_iff_toNat_lt, ← UInt8.toNat_inj]
          exact Nat.le_iff_lt_or_eq.mp (Nat.le_of_lt_succ b.toNat_lt)
        · have ha' : (a == 255) = false := by simpa using ha
          simp only [ha', Bool.false_eq_true, ↓reduceIte, and_true, bytesLt_cons, bytesLt_nil_right, and_false, or_false,
            u8_lt_succ ha]

theorem admits_prefixEnd (k e : Bytes) :
    (match prefixEnd k with | some h => bytesLt e h | none => true) = true ↔ (bytesLt k e = false ∨ k <+: e) := by
  rw [prefixEnd_eq_S]
  exact admits_prefixEndS k e

theorem bytesLt_prefixEnd {k h : Bytes} (hp : prefixEnd k = some h) (e : Bytes) :
    bytesLt e h = true ↔ (bytesLt k e = false ∨ k <+: e) := by
  rw [← admits_prefixEnd, hp]

theorem prefix_of_prefixEnd_none {k : Bytes} (hp : prefixEnd k = none) {e : Bytes} (hlt : bytesLt k e = true) : k <+: e := by
  have h := (admits_prefixEnd k e).mp (by rw [hp])
  rwa [hlt, Bool.true_eq_false, false_or] at h

end Orbiter
