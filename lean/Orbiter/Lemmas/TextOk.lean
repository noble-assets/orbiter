/-
  Free text that validation accepts is printable ASCII (`Attrs.validate_textOk`): bech32 addresses, amounts in any base `NewIntFromString`
  reads, SDK denominations, `0x`+hex hook metadata. With it the round trip of C15 holds for whatever the constructors build.
-/
import Orbiter.Lemmas.Ascii
import Orbiter.Lemmas.Validate
namespace Orbiter

/-- The character check of `bech32.Decode`: only printable, non-blank ASCII is let through. -/
theorem bech32Decode_chars {s : String} {lim : Option Nat} {r : String × Bytes} (h : bech32Decode s lim = some r) :
    ∀ c ∈ s.toList, 33 ≤ c.toNat ∧ c.toNat ≤ 126 := by
  unfold bech32Decode at h
  simp only [Option.ite_none_left_eq_some] at h
  have hany := h.2.2.1
  intro c hc
  have := mt (fun hh => List.any_eq_true.mpr ⟨c, hc, hh⟩) hany
  simp only [Bool.or_eq_true, decide_eq_true_eq, not_or, Nat.not_lt] at this
  omega

theorem accAddressFromBech32_strOk {hrp s : String} {a : Bytes} (h : accAddressFromBech32 hrp s = some a) : strOk s = true := by
  unfold accAddressFromBech32 at h
  simp only [Option.ite_none_left_eq_some] at h
  cases hd : bech32Decode s (some 1023) with
  | none => simp [hd] at h
  | some r =>
    refine List.all_eq_true.mpr fun c hc => asciiPrintable_iff.mpr ?_
    have := bech32Decode_chars hd c hc
    omega

theorem digitValBase_printable {c : Char} (h : digitValBase c < 99) : asciiPrintable c = true := by
  unfold digitValBase at h
  split at h
  · exact asciiPrintable_of_between ‹_›
  split at h
  · exact asciiPrintable_of_between ‹_›
  split at h
  · exact asciiPrintable_of_between ‹_›
  · omega

theorem scanDigits0_printable (b : Nat) (hb : b ≤ 16) (cs : List Char) (prev : Bool) (acc cnt : Nat)
    (h : (scanDigits0 b cs prev acc cnt).isSome = true) : cs.all asciiPrintable = true := by
  induction cs generalizing prev acc cnt with
  | nil => rfl
  | cons c cs ih =>
    unfold scanDigits0 at h
    simp only [List.all_cons, Bool.and_eq_true]
    split at h
    · rename_i hu
      have hc : c = '_' := by simpa using hu
      split at h
      · exact ⟨by subst hc; decide, ih _ _ _ h⟩
      · cases h
    · simp only at h
      split at h
      · rename_i hlt
        exact ⟨digitValBase_printable (by omega), ih _ _ _ h⟩
      · cases h

theorem parseNat0_printable {cs : List Char} {n : Nat} (h : parseNat0 cs = some n) : cs.all asciiPrintable = true := by
  -- every branch is: a literal prefix (`0b`, `0o`, `0x`, `0`, none), then `scanDigits0` in the base the prefix names
  have letter : ∀ {c x y : Char}, (c == x || c == y) = true → asciiPrintable x = true ∧ asciiPrintable y = true →
      asciiPrintable c = true := by
    intro c x y hc hxy
    simp only [Bool.or_eq_true, beq_iff_eq] at hc
    rcases hc with rfl | rfl
    · exact hxy.1
    · exact hxy.2
  have scan : ∀ {b : Nat} {ds : List Char} {prev : Bool} {k : Nat → Nat → Option Nat}, b ≤ 16 →
      (match scanDigits0 b ds prev 0 0 with | some (v, c) => k v c | none => none) = some n → ds.all asciiPrintable = true := by
    intro b ds prev k hb hs
    refine scanDigits0_printable b hb ds prev 0 0 ?_
    cases hd : scanDigits0 b ds prev 0 0 with
    | none => rw [hd] at hs; cases hs
    | some _ => rfl
  unfold parseNat0 at h
  split at h
  · rename_i rest
    simp only [List.all_cons, Bool.and_eq_true]
    refine ⟨by decide, ?_⟩
    split at h
    · rfl
    · rename_i c more
      simp only [List.all_cons, Bool.and_eq_true]
      split at h
      · exact ⟨letter ‹_› (by decide), scan (by omega) h⟩
      split at h
      · exact ⟨letter ‹_› (by decide), scan (by omega) h⟩
      split at h
      · exact ⟨letter ‹_› (by decide), scan (by omega) h⟩
      · simpa using scan (by omega) h
  · exact scan (by omega) h

theorem newIntFromString_strOk {v : String} {i : Int} (h : newIntFromString v = some i) : strOk v = true := by
  unfold newIntFromString at h
  cases hp : parseBigInt0 v with
  | none => simp [hp] at h
  | some j =>
    have key : ∀ r (f : Nat → Int), (parseNat0 r).map f = some j → r.all asciiPrintable = true := by
      intro r f hr
      obtain ⟨n, hn, -⟩ := Option.map_eq_some_iff.mp hr
      exact parseNat0_printable hn
    unfold parseBigInt0 at hp
    unfold strOk
    -- an optional sign, then the unsigned part
    split at hp
    · rename_i r heq
      rw [heq, List.all_cons, key r _ hp]
      rfl
    · rename_i r heq
      rw [heq, List.all_cons, key r _ hp]
      rfl
    · exact key _ _ hp

theorem FeeInfo.validate_textOk {hrp : String} {f : FeeInfo} (h : f.validate hrp = .ok ()) : f.textOk = true := by
  obtain ⟨hft, a, ha⟩ := FeeInfo.validate_ok h
  simp only [FeeInfo.textOk, Bool.and_eq_true]
  refine ⟨accAddressFromBech32_strOk ha, ?_⟩
  generalize f.feeType = ft at hft ⊢
  cases ft with
  | unset => rfl
  | bps v => rfl
  | amount s =>
    obtain ⟨i, hn, _⟩ := hft
    exact newIntFromString_strOk hn

theorem isAlpha_printable {c : Char} (h : isAlpha c = true) : asciiPrintable c = true := by
  simp only [isAlpha, Bool.or_eq_true, Bool.and_eq_true, decide_eq_true_eq] at h
  rcases h with h | h <;> exact asciiPrintable_of_between h

theorem validDenom_strOk {d : String} (h : validDenom d = true) : strOk d = true := by
  unfold validDenom at h
  unfold strOk
  cases hl : d.toList with
  | nil => rfl
  | cons c rest =>
    simp only [hl, Bool.and_eq_true, List.all_eq_true] at h
    obtain ⟨⟨⟨hc, _⟩, _⟩, hr⟩ := h
    simp only [List.all_cons, Bool.and_eq_true, List.all_eq_true]
    refine ⟨isAlpha_printable hc, ?_⟩
    intro x hx
    have := hr x hx
    simp only [Bool.or_eq_true, beq_iff_eq] at this
    rcases this with (((((h1 | h1) | h1) | h1) | h1) | h1) | h1
    · exact isAlpha_printable h1
    · exact digit_printable h1
    all_goals (subst h1; decide)

theorem hexVal_printable {c : Char} (h : (hexVal? c).isSome = true) : asciiPrintable c = true := by
  unfold hexVal? at h
  split at h
  · exact asciiPrintable_of_between ‹_›
  split at h
  · exact asciiPrintable_of_between ‹_›
  split at h
  · exact asciiPrintable_of_between ‹_›
  · cases h

/-- Hook metadata accepted by `HypAttributes.Validate` (`0x` + hex, or empty) is printable. -/
theorem hookMeta_strOk {hm : String}
    (h : hm = "" ∨ (hm.startsWith Gen.hypHookMetadataPrefix = true ∧ isHexString (hm.drop Gen.hypHookMetadataPrefix.length).toString = true)) :
    strOk hm = true := by
  unfold strOk
  rcases h with h | h
  · subst h; rfl
  · obtain ⟨hp, hx⟩ := h
    have hpre : Gen.hypHookMetadataPrefix.toList <+: hm.toList := by simpa using hp
    obtain ⟨t, ht⟩ := hpre
    have hd : (hm.drop Gen.hypHookMetadataPrefix.length).toString.toList = t := by
      have h1 : (hm.drop Gen.hypHookMetadataPrefix.length).toString.toList = hm.toList.drop Gen.hypHookMetadataPrefix.length := by simp
      rw [h1, ← ht, ← String.length_toList, List.drop_left]
    unfold isHexString at hx
    simp only [hd, Bool.and_eq_true, List.all_eq_true] at hx
    rw [← ht, List.all_append, Bool.and_eq_true]
    refine ⟨by decide, ?_⟩
    rw [List.all_eq_true]
    intro c hc
    exact hexVal_printable (hx.2 c hc)

theorem Attrs.validate_textOk {hrp : String} {orb : Bytes} {a : Attrs} (h : a.validate hrp orb = .ok ()) : a.textOk = true := by
  cases a with
  | cctp d m c => rfl
  | internal r =>
    obtain ⟨x, hx, -⟩ := Attrs.validate_internal_ok h
    exact accAddressFromBech32_strOk hx
  | fee infos =>
    simp only [Attrs.textOk]
    rw [List.all_eq_true]
    exact fun f hf => FeeInfo.validate_textOk ((validateFeeAttrs_ok.mp h).2 f hf)
  | hyp t d r k hm g fd fa =>
    obtain ⟨-, -, -, -, -, hmeta, -, -, -, hden⟩ := Attrs.validate_hyp_ok.mp h
    simp only [Attrs.textOk, hookMeta_strOk hmeta, Bool.true_and]
    by_cases he : fd = ""
    · subst he; rfl
    · exact validDenom_strOk (hden (Or.inr he))

end Orbiter
