/-
  The text level of the round trip (C15): the syntax layer reads a rendered tree back. For every tree whose strings are printable
  ASCII and carry the flag the scanner would compute (`plain` = no escape needed), whose numbers are canonical decimals, whose
  objects have distinct keys (`Json.printable`) and which is nested at most `maxDepth` deep (`Json.height`),
  `parseJsonWhole (render t) = some t` (`parseJsonWhole_render`, the last theorem).
  First these trees, with the equations of `Json.printable`; then positions in the source (`ReadsAt s i bs`: the bytes `bs` stand at
  `i`) and over them one scanner after the other: strings, numbers, white space and literals, the leaves of `parseValue`, one round
  of each list parser (`itemsRest` / `fieldsRest` say what follows an element), and the mutual induction over values, items and fields.
-/
import Orbiter.Lemmas.Ascii
namespace Orbiter

/-- What the marshaller writes for a number: a canonical decimal, possibly negative. -/
def numOkB (raw : String) : Bool := canonicalDigits (stripMinus raw.toList)

theorem numOkB_cases {raw : String} (h : numOkB raw = true) :
    ∃ ds, canonicalDigits ds = true ∧ (raw.toList = ds ∨ raw.toList = '-' :: ds) := by
  unfold numOkB stripMinus at h
  split at h
  · rename_i r heq
    exact ⟨r, h, Or.inr heq⟩
  · exact ⟨raw.toList, h, Or.inl rfl⟩

theorem numOkB_strOk {raw : String} (h : numOkB raw = true) : strOk raw = true := by
  obtain ⟨ds, hc, hraw⟩ := numOkB_cases h
  have hd : ds.all asciiPrintable = true :=
    List.all_eq_true.mpr fun c hm => digit_printable (List.all_eq_true.mp (canonical_all hc) c hm)
  unfold strOk
  rcases hraw with hraw | hraw <;> rw [hraw]
  · exact hd
  · rw [List.all_cons, hd]; rfl

theorem numOkB_strBytes {raw : String} (h : numOkB raw = true) : strBytes raw = raw.toList.map byteOf :=
  strBytes_ascii (strOk_toNat_lt (numOkB_strOk h))

/-- No key occurs twice in the object: `dedupLast`, which the field parser applies at the closing brace, then changes nothing. -/
def keysDistinct : List (String × Json) → Bool
  | [] => true
  | kv :: rest => !(rest.any (·.1 == kv.1)) && keysDistinct rest

theorem keysDistinct_iff (l : List (String × Json)) : keysDistinct l = true ↔ l.Pairwise (fun a b => a.1 ≠ b.1) := by
  induction l with
  | nil => simp [keysDistinct]
  | cons kv rest ih => simp [keysDistinct, ih, @eq_comm _ kv.1]

theorem dedupLast_go (acc rest : List (String × Json)) (h : (acc ++ rest).Pairwise (fun a b => a.1 ≠ b.1)) :
    rest.foldl (fun acc (kv : String × Json) => (acc.filter (·.1 != kv.1)) ++ [kv]) acc = acc ++ rest := by
  induction rest generalizing acc with
  | nil => simp
  | cons kv rest ih =>
    -- `kv` comes after everything in `acc`: no key to drop
    have hf : acc.filter (·.1 != kv.1) = acc :=
      List.filter_eq_self.mpr fun x hx => by simpa using (List.pairwise_append.mp h).2.2 x hx kv List.mem_cons_self
    rw [List.foldl_cons, hf, ih (acc ++ [kv]) (by simpa using h)]
    simp

theorem dedupLast_distinct (fs : List (String × Json)) (h : keysDistinct fs = true) : dedupLast fs = fs := by
  simpa [dedupLast] using dedupLast_go [] fs (by simpa using (keysDistinct_iff fs).mp h)

mutual
/-- Strings are printable ASCII with an accurate flag, numbers canonical decimals, object keys pairwise distinct. -/
def Json.printable : Json → Bool
  | .null => true
  | .bool _ => true
  | .num raw => numOkB raw
  | .str v p => strOk v && (p == v.toList.all rawChar)
  | .arr items => printableList items
  | .obj fs => printableFields fs && keysDistinct fs
def printableList : List Json → Bool
  | [] => true
  | x :: xs => x.printable && printableList xs
def printableFields : List (String × Json) → Bool
  | [] => true
  | (k, v) :: fs => strOk k && v.printable && printableFields fs
end

theorem Json.printable_null : Json.null.printable = true := rfl

theorem Json.printable_num {raw : String} : (Json.num raw).printable = numOkB raw := rfl

theorem Json.printable_str {v : String} {p : Bool} : (Json.str v p).printable = true ↔ strOk v = true ∧ p = v.toList.all rawChar := by
  rw [Json.printable, Bool.and_eq_true, beq_iff_eq]

theorem Json.printable_arr {l : List Json} : (Json.arr l).printable = printableList l := rfl

theorem Json.printable_obj {fs : List (String × Json)} : (Json.obj fs).printable = true ↔ printableFields fs = true ∧ keysDistinct fs = true := by
  rw [Json.printable, Bool.and_eq_true]

theorem printableList_cons {x : Json} {xs : List Json} : printableList (x :: xs) = true ↔ x.printable = true ∧ printableList xs = true := by
  rw [printableList, Bool.and_eq_true]

theorem printableFields_cons {k : String} {v : Json} {fs : List (String × Json)} :
    printableFields ((k, v) :: fs) = true ↔ (strOk k = true ∧ v.printable = true) ∧ printableFields fs = true := by
  rw [printableFields, Bool.and_eq_true, Bool.and_eq_true]

theorem printableList_eq_all (l : List Json) : printableList l = l.all Json.printable := by
  induction l with
  | nil => rfl
  | cons x xs ih => rw [printableList, ih, List.all_cons]

theorem printableFields_eq_all (fs : List (String × Json)) : printableFields fs = fs.all fun kv => strOk kv.1 && kv.2.printable := by
  induction fs with
  | nil => rfl
  | cons kv fs ih => rw [printableFields, ih, List.all_cons]

theorem encStr_printable (s : String) (h : strOk s = true) : (encStr s).printable = true := Json.printable_str.mpr ⟨h, rfl⟩

theorem printableList_map {α} (enc : α → Json) (l : List α) (h : ∀ a ∈ l, (enc a).printable = true) : printableList (l.map enc) = true := by
  simpa [printableList_eq_all] using h

mutual
/-- Nesting depth of arrays and objects: what `parseValue` counts against `maxDepth`. -/
def Json.height : Json → Nat
  | .arr items => 1 + heightList items
  | .obj fs => 1 + heightFields fs
  | _ => 0
def heightList : List Json → Nat
  | [] => 0
  | x :: xs => max x.height (heightList xs)
def heightFields : List (String × Json) → Nat
  | [] => 0
  | (_, v) :: fs => max v.height (heightFields fs)
end

theorem heightList_map {α} (enc : α → Json) (l : List α) (k : Nat) (h : ∀ a ∈ l, (enc a).height ≤ k) : heightList (l.map enc) ≤ k := by
  induction l with
  | nil => simp [heightList]
  | cons a t ih =>
    simp only [List.map_cons, heightList]
    exact Nat.max_le.mpr ⟨h a (by simp), ih (fun b hb => h b (by simp [hb]))⟩

/-- The byte list as the array the scanner indexes; `parseJsonWhole` builds the same array (by `rfl`). -/
def srcOf (l : Bytes) : Src := ByteArray.mk l.toArray

theorem size_srcOf (l : Bytes) : (srcOf l).size = l.length := rfl

theorem at_srcOf (l : Bytes) (i : Nat) : (srcOf l).at i = l[i]? := by
  simp only [Src.at, srcOf, ByteArray.get, List.getElem_toArray, getElem?_def]
  -- the two conditions, `i < (List.toArray l).size` and `i < l.length`, are the same by unfolding
  rfl

theorem at_lt_size {s : Src} {k : Nat} {b : UInt8} (h : s.at k = some b) : k < s.size := by
  unfold Src.at at h
  split at h
  · assumption
  · cases h

theorem at_app0 (pre rest : Bytes) : (srcOf (pre ++ rest)).at pre.length = rest[0]? := by
  rw [at_srcOf, List.getElem?_append_right (Nat.le_refl _), Nat.sub_self]

/-- From position `i` on the source holds the bytes `bs`. Every lemma on a scanner assumes this of the bytes rendered for a piece of the
tree, and says where the scanner stops and what it returns. -/
def ReadsAt (s : Src) (i : Nat) (bs : Bytes) : Prop := ∀ k (h : k < bs.length), s.at (i + k) = some bs[k]

theorem ReadsAt.nil (s : Src) (i : Nat) : ReadsAt s i [] := by intro k h; simp at h

theorem readsAt_srcOf (l : Bytes) : ReadsAt (srcOf l) 0 l := fun k hk => by
  rw [Nat.zero_add, at_srcOf, List.getElem?_eq_getElem hk]

theorem ReadsAt.cons {s : Src} {i : Nat} {b : UInt8} {bs : Bytes} : ReadsAt s i (b :: bs) ↔ s.at i = some b ∧ ReadsAt s (i + 1) bs := by
  have e : ∀ k, i + 1 + k = i + (k + 1) := fun k => by omega
  constructor
  · intro h
    exact ⟨h 0 (Nat.zero_lt_succ _), fun k hk => e k ▸ h (k + 1) (Nat.succ_lt_succ hk)⟩
  · rintro ⟨h0, h1⟩ k hk
    cases k with
    | zero => exact h0
    | succ k => exact e k ▸ h1 k (Nat.lt_of_succ_lt_succ hk)

theorem ReadsAt.append {s : Src} {i : Nat} {a b : Bytes} : ReadsAt s i (a ++ b) ↔ ReadsAt s i a ∧ ReadsAt s (i + a.length) b := by
  induction a generalizing i with
  | nil => exact ⟨fun h => ⟨ReadsAt.nil s i, h⟩, fun h => h.2⟩
  | cons x a ih => rw [List.cons_append, ReadsAt.cons, ReadsAt.cons, ih, and_assoc, List.length_cons, Nat.add_assoc, Nat.add_comm 1]

theorem ReadsAt.head {s : Src} {i : Nat} {b : UInt8} {bs : Bytes} (h : ReadsAt s i (b :: bs)) : s.at i = some b := (ReadsAt.cons.mp h).1

theorem ne_escaped_of_rawChar {c : Char} (hp : asciiPrintable c = true) (hr : rawChar c = true) :
    c.toNat < 0x80 ∧ c ≠ '"' ∧ c ≠ '\\' ∧ ¬ c.toNat < 0x20 ∧ c ≠ '<' ∧ c ≠ '>' ∧ c ≠ '&' := by
  have hlt : c.toNat < 0x80 := by have := asciiPrintable_iff.mp hp; omega
  unfold rawChar at hr
  simpa only [hlt, ↓reduceIte, Bool.not_eq_true', Bool.or_eq_false_iff, beq_eq_false_iff_ne, ne_eq, decide_eq_false_iff_not,
    and_assoc, true_and] using hr

theorem renderChar_raw (c : Char) (hp : asciiPrintable c = true) (hr : rawChar c = true) : renderChar c = [byteOf c] := by
  obtain ⟨hlt, h1, h2, h3, h4, h5, h6⟩ := ne_escaped_of_rawChar hp hr
  unfold renderChar
  simp only [hlt, ↓reduceIte, beq_iff_eq, h1, h2]
  have : ¬ c.toNat = 8 ∧ ¬ c.toNat = 12 ∧ ¬ c.toNat = 10 ∧ ¬ c.toNat = 13 ∧ ¬ c.toNat = 9 ∧ ¬ c.toNat < 32 := by omega
  simp [this, h4, h5, h6, byteOf]

theorem decodeRune_ascii (s : Src) (i : Nat) (b : UInt8) (h : s.at i = some b) (hb : b.toNat < 0x80) :
    decodeRune s i = (Char.ofNat b.toNat, 1, true) := by
  unfold decodeRune
  simp only [h, hb, ↓reduceIte]

theorem scanString_go_raw {s : Src} {i fuel : Nat} {acc : List Char} {plain : Bool} {c : Char}
    (hp : asciiPrintable c = true) (hr : rawChar c = true) (h : s.at i = some (byteOf c)) :
    scanString.go s (fuel + 1) i acc plain = scanString.go s fuel (i + 1) (c :: acc) plain := by
  obtain ⟨hlt, h1, h2, h3, -, -, -⟩ := ne_escaped_of_rawChar hp hr
  have h256 : c.toNat < 256 := by omega
  have hn := byteOf_toNat h256
  have e1 : byteOf c ≠ 34 := byteOf_ne h256 fun e => h1 (by rw [← Char.ofNat_toNat c, e]; rfl)
  have e2 : byteOf c ≠ 92 := byteOf_ne h256 fun e => h2 (by rw [← Char.ofNat_toNat c, e]; rfl)
  have e3 : ¬ (byteOf c < 32) := by
    rw [UInt8.lt_iff_toNat_lt, hn]; exact h3
  rw [scanString.go]
  simp only [h, beq_iff_eq, e1, e2, e3, ↓reduceIte]
  rw [decodeRune_ascii s i _ h (by rw [hn]; exact hlt)]
  simp only [hn, Char.ofNat_toNat, Bool.and_true]

theorem scanString_go_close {s : Src} {i fuel : Nat} {acc : List Char} {plain : Bool} (h : s.at i = some 34) :
    scanString.go s (fuel + 1) i acc plain = some (String.ofList acc.reverse, plain, i + 1) := by
  rw [scanString.go]
  simp only [h, beq_self_eq_true, ↓reduceIte]

theorem scanString_go_esc_quote {s : Src} {i fuel : Nat} {acc : List Char} {plain : Bool} (h0 : s.at i = some 92) (h1 : s.at (i + 1) = some 34) :
    scanString.go s (fuel + 1) i acc plain = scanString.go s fuel (i + 2) ('"' :: acc) false := by
  rw [scanString.go]
  simp (decide := true) only [h0, h1, ↓reduceIte]

theorem scanString_go_esc_backslash {s : Src} {i fuel : Nat} {acc : List Char} {plain : Bool} (h0 : s.at i = some 92) (h1 : s.at (i + 1) = some 92) :
    scanString.go s (fuel + 1) i acc plain = scanString.go s fuel (i + 2) ('\\' :: acc) false := by
  rw [scanString.go]
  simp (decide := true) only [h0, h1, ↓reduceIte]

theorem hex4_reads {s : Src} {j : Nat} {a b c d : UInt8} (h : ReadsAt s j [a, b, c, d]) :
    hex4 s j = (do
      let va ← hexVal? (Char.ofNat a.toNat); let vb ← hexVal? (Char.ofNat b.toNat)
      let vc ← hexVal? (Char.ofNat c.toNat); let vd ← hexVal? (Char.ofNat d.toNat)
      pure (va * 4096 + vb * 256 + vc * 16 + vd)) := by
  simp only [ReadsAt.cons, Nat.add_assoc, Nat.reduceAdd] at h
  obtain ⟨ha, hb, hc, hd, -⟩ := h
  simp only [hex4, ha, hb, hc, hd, Option.bind_eq_bind, Option.bind_some]

theorem scanString_go_u {s : Src} {i fuel : Nat} {acc : List Char} {plain : Bool} {n : Nat}
    (h0 : s.at i = some 92) (h1 : s.at (i + 1) = some 117) (hh : hex4 s (i + 2) = some n) (hn : n < 0xD800) :
    scanString.go s (fuel + 1) i acc plain = scanString.go s fuel (i + 6) (Char.ofNat n :: acc) false := by
  rw [scanString.go]
  simp (decide := true) only [h0, h1, ↓reduceIte, hh]
  simp [Nat.not_le.mpr hn]

/-! The five printable characters that are written escaped: `\"`, `\\`, `\u003c`, `\u003e`, `\u0026`. -/

theorem renderChar_quote : renderChar '"' = [92, 34] := by decide
theorem renderChar_backslash : renderChar '\\' = [92, 92] := by decide
theorem renderChar_lt : renderChar '<' = [92, 117, 48, 48, 51, 99] := by decide
theorem renderChar_gt : renderChar '>' = [92, 117, 48, 48, 51, 101] := by decide
theorem renderChar_amp : renderChar '&' = [92, 117, 48, 48, 50, 54] := by decide

theorem scanString_go_char {s : Src} {i fuel : Nat} {acc : List Char} {plain : Bool} {c : Char}
    (hp : asciiPrintable c = true) (h : ReadsAt s i (renderChar c)) :
    scanString.go s (fuel + 1) i acc plain = scanString.go s fuel (i + (renderChar c).length) (c :: acc) (plain && rawChar c) := by
  cases hr : rawChar c with
  | true =>
    rw [renderChar_raw c hp hr] at h ⊢
    simpa using scanString_go_raw hp hr h.head
  | false =>
    have hp' := asciiPrintable_iff.mp hp
    have hlt : c.toNat < 0x80 := by omega
    simp only [rawChar, hlt, ↓reduceIte, Bool.not_eq_false', Bool.or_eq_true, beq_iff_eq, decide_eq_true_eq] at hr
    simp only [Bool.and_false]
    rcases hr with ((((rfl | rfl) | hc) | rfl) | rfl) | rfl
    · rw [renderChar_quote] at h ⊢
      exact scanString_go_esc_quote h.head (ReadsAt.cons.mp h).2.head
    · rw [renderChar_backslash] at h ⊢
      exact scanString_go_esc_backslash h.head (ReadsAt.cons.mp h).2.head
    · omega
    all_goals
      simp only [renderChar_lt, renderChar_gt, renderChar_amp] at h ⊢
      obtain ⟨hu, hx⟩ := (ReadsAt.append (a := [92, 117])).mp h
      exact scanString_go_u hu.head (ReadsAt.cons.mp hu).2.head (by rw [hex4_reads (j := i + 2) hx]; decide) (by decide)

theorem scanString_go_chars (s : Src) (cs : List Char) (hp : cs.all asciiPrintable = true) (i fuel : Nat) (acc : List Char) (plain : Bool)
    (h : ReadsAt s i (cs.flatMap renderChar ++ [34])) (hf : cs.length + 1 ≤ fuel) :
    scanString.go s fuel i acc plain =
      some (String.ofList (acc.reverse ++ cs), plain && cs.all rawChar, i + (cs.flatMap renderChar).length + 1) := by
  induction cs generalizing i fuel acc plain with
  | nil =>
    obtain _ | f := fuel
    · simp at hf
    simp only [List.flatMap_nil, List.nil_append] at h
    rw [scanString_go_close h.head]
    simp
  | cons c cs ih =>
    obtain _ | f := fuel
    · simp at hf
    simp only [List.all_cons, Bool.and_eq_true] at hp
    simp only [List.flatMap_cons, List.append_assoc] at h
    obtain ⟨h1, h2⟩ := ReadsAt.append.mp h
    rw [scanString_go_char hp.1 h1]
    rw [ih hp.2 _ f _ _ h2 (by simp at hf; omega)]
    simp only [List.reverse_cons, List.append_assoc, List.singleton_append, List.all_cons, List.flatMap_cons, List.length_append,
      Bool.and_assoc]
    rw [Nat.add_assoc i]

theorem renderChar_length_pos (c : Char) : 1 ≤ (renderChar c).length := by
  have hu : 1 ≤ (String.utf8EncodeChar c).length := by rw [String.length_utf8EncodeChar]; exact Char.utf8Size_pos c
  unfold renderChar
  -- every branch is a literal list or the UTF-8 encoding: push the claim through the conditionals instead of splitting on them
  simp only [apply_ite (fun l : Bytes => 1 ≤ l.length), List.length_cons, List.length_nil, hu, Nat.le_add_left, ite_self]

theorem flatMap_render_length (cs : List Char) : cs.length ≤ (cs.flatMap renderChar).length := by
  induction cs with
  | nil => simp
  | cons c cs ih =>
    simp only [List.flatMap_cons, List.length_append, List.length_cons]
    have := renderChar_length_pos c
    omega

theorem scanString_render {s : Src} {v : String} (hp : strOk v = true) {i : Nat} (h : ReadsAt s i (v.toList.flatMap renderChar ++ [34])) :
    scanString s i = some (v, v.toList.all rawChar, i + (v.toList.flatMap renderChar).length + 1) := by
  unfold scanString
  have hq := (ReadsAt.append.mp h).2.head
  have hlt := at_lt_size hq
  have hlen := flatMap_render_length v.toList
  rw [scanString_go_chars s v.toList hp i _ [] true h (by omega)]
  simp

theorem renderString_length (k : String) : (renderString k).length = (k.toList.flatMap renderChar).length + 2 := by simp [renderString]

/-- Nothing that continues a number literal: end of input or one of `,` `}` `]`. -/
def StopAt (s : Src) (k : Nat) : Prop := s.at k = none ∨ s.at k = some 44 ∨ s.at k = some 125 ∨ s.at k = some 93

theorem skipDigits_go (s : Src) (ds : List Char) (hd : ds.all isDigit = true) (j fuel : Nat) (h : ReadsAt s j (ds.map byteOf))
    (hstop : StopAt s (j + ds.length)) (hf : ds.length + 1 ≤ fuel) : skipDigits.go s fuel j = j + ds.length := by
  induction ds generalizing j fuel with
  | nil =>
    obtain _ | f := fuel
    · simp at hf
    rw [skipDigits.go]
    simp only [List.length_nil, Nat.add_zero] at hstop ⊢
    rcases hstop with h0 | h0 | h0 | h0 <;> simp [h0, isDigitB]
  | cons c cs ih =>
    obtain _ | f := fuel
    · simp at hf
    simp only [List.all_cons, Bool.and_eq_true] at hd
    simp only [List.map_cons] at h
    obtain ⟨h0, h1⟩ := ReadsAt.cons.mp h
    rw [skipDigits.go]
    simp only [h0, isDigitB_byteOf hd.1, ↓reduceIte]
    rw [ih hd.2 (j + 1) f h1 (by simp only [List.length_cons] at hstop; rw [show j + 1 + cs.length = j + (cs.length + 1) by omega]; exact hstop) (by simp at hf; omega)]
    simp only [List.length_cons]; omega

theorem skipDigits_eq (s : Src) (ds : List Char) (hd : ds.all isDigit = true) (j : Nat) (h : ReadsAt s j (ds.map byteOf))
    (hstop : StopAt s (j + ds.length)) (hj : j ≤ s.size) : skipDigits s j = j + ds.length := by
  unfold skipDigits
  apply skipDigits_go s ds hd j _ h hstop
  cases ds with
  | nil => simp; omega
  | cons c cs =>
    have := at_lt_size (h (cs.length) (by simp))
    simp only [List.length_cons]; omega

theorem StopAt.ne {s : Src} {k : Nat} (h : StopAt s k) :
    (s.at k == some 46) = false ∧ (s.at k == some 101) = false ∧ (s.at k == some 69) = false := by
  rcases h with h | h | h | h <;> rw [h] <;> decide

theorem scanNumber_unsigned (s : Src) (ds : List Char) (hc : canonicalDigits ds = true) (i : Nat) (h : ReadsAt s i (ds.map byteOf))
    (hstop : StopAt s (i + ds.length)) : scanNumber s i = some (i + ds.length) := by
  obtain ⟨hne, hall, hcan⟩ := canonicalDigits_iff.mp hc
  cases ds with
  | nil => exact absurd rfl hne
  | cons d rest =>
    simp only [List.all_cons, Bool.and_eq_true] at hall
    simp only [List.map_cons] at h
    obtain ⟨h0, h1⟩ := ReadsAt.cons.mp h
    have hi := at_lt_size h0
    obtain ⟨q1, q2, q3⟩ := hstop.ne
    rcases byteOf_digit_cases hall.1 with ⟨e, eb⟩ | ⟨e, eb1, eb2⟩
    · -- "0" itself
      subst e
      have hr : rest = [] := by
        rcases hcan with hl | hh
        · simpa using hl
        · simp at hh
      subst hr
      rw [eb] at h0
      simp only [List.length_singleton] at hstop q1 q2 q3 ⊢
      unfold scanNumber
      simp (decide := true) only [↓reduceIte, h0, Option.bind_eq_bind, Option.bind_some, q1, q2, q3]
    · have hnm : (s.at i == some 45) = false := by
        rw [h0]
        simpa using byteOf_digit_ne_minus hall.1
      have e2 : i + 1 + rest.length = i + (d :: rest).length := by simp; omega
      have hs := skipDigits_eq s rest hall.2 (i + 1) h1 (e2 ▸ hstop) (by omega)
      unfold scanNumber
      rw [h0] at hnm
      simp only [hnm, Bool.false_eq_true, ↓reduceIte, h0, Option.bind_eq_bind, Option.bind_some, eb1, eb2, hs, e2, q1, q2, q3, Bool.or_self]

theorem scanNumber_minus (s : Src) (i : Nat) (h : s.at i = some 45) (h' : (s.at (i + 1) == some 45) = false) :
    scanNumber s i = scanNumber s (i + 1) := by
  unfold scanNumber
  simp only [h, beq_self_eq_true, ↓reduceIte, h', Bool.false_eq_true]

theorem scanNumber_render {s : Src} {raw : String} (hn : numOkB raw = true) {i : Nat} (h : ReadsAt s i (strBytes raw))
    (hstop : StopAt s (i + (strBytes raw).length)) : scanNumber s i = some (i + (strBytes raw).length) := by
  rw [numOkB_strBytes hn] at h hstop ⊢
  obtain ⟨ds, hc, hraw⟩ := numOkB_cases hn
  obtain ⟨hne, hall, -⟩ := canonicalDigits_iff.mp hc
  rcases hraw with hraw | hraw <;> rw [hraw] at h hstop ⊢
  · simp only [List.length_map] at hstop ⊢
    exact scanNumber_unsigned s ds hc i h hstop
  · simp only [List.map_cons, List.length_cons, List.length_map] at h hstop ⊢
    obtain ⟨h0, h1⟩ := ReadsAt.cons.mp h
    have hd1 : (s.at (i + 1) == some 45) = false := by
      cases ds with
      | nil => exact absurd rfl hne
      | cons d rest =>
        rw [(show ReadsAt s (i + 1) (byteOf d :: rest.map byteOf) from h1).head]
        simpa using byteOf_digit_ne_minus (List.all_eq_true.mp hall d List.mem_cons_self)
    rw [scanNumber_minus s i h0 hd1, scanNumber_unsigned s ds hc (i + 1) h1 (by rw [Nat.add_assoc, Nat.add_comm 1]; exact hstop)]
    simp only [Option.some.injEq]
    omega

theorem filterMap_range_reads (s : Src) (i : Nat) (bs : Bytes) (h : ReadsAt s i bs) (n : Nat) (hn : n ≤ bs.length) :
    (List.range n).filterMap (fun k => s.at (i + k)) = bs.take n := by
  induction n with
  | zero => simp
  | succ n ih =>
    rw [List.range_succ, List.filterMap_append, ih (by omega)]
    simp only [List.filterMap_cons, List.filterMap_nil, h n (by omega)]
    rw [List.take_succ_eq_append_getElem (by omega)]

theorem sliceBytes_reads (s : Src) (i : Nat) (bs : Bytes) (h : ReadsAt s i bs) : sliceBytes s i (i + bs.length) = bs := by
  unfold sliceBytes
  rw [show i + bs.length - i = bs.length by omega, filterMap_range_reads s i bs h bs.length (Nat.le_refl _)]
  simp

theorem sliceString_render {s : Src} {raw : String} (hn : numOkB raw = true) {i : Nat} (h : ReadsAt s i (strBytes raw)) :
    sliceString s i (i + (strBytes raw).length) = raw := by
  unfold sliceString
  rw [sliceBytes_reads s i _ h, numOkB_strBytes hn, List.map_map,
    List.map_congr_left (f := (fun b : UInt8 => Char.ofNat b.toNat) ∘ byteOf) (g := id) (fun c hc => ofNat_toNat_byteOf c (strOk_toNat_lt (numOkB_strOk hn) c hc)),
    List.map_id, String.ofList_toList]

theorem numOkB_strBytes_head {raw : String} (h : numOkB raw = true) :
    ∃ b rest, strBytes raw = b :: rest ∧ (b = 45 ∨ isDigitB b = true) := by
  rw [numOkB_strBytes h]
  obtain ⟨ds, hc, hraw⟩ := numOkB_cases h
  obtain ⟨hne, hall, -⟩ := canonicalDigits_iff.mp hc
  rcases hraw with hraw | hraw <;> rw [hraw]
  · cases ds with
    | nil => exact absurd rfl hne
    | cons d rest => exact ⟨_, _, rfl, .inr (isDigitB_byteOf (List.all_eq_true.mp hall d List.mem_cons_self))⟩
  · exact ⟨_, _, rfl, .inl (by decide)⟩

theorem minus_or_digit_ne {b : UInt8} (h : b = 45 ∨ isDigitB b = true) (k : UInt8) (hk : k.toNat ≠ 45 ∧ ¬ (48 ≤ k.toNat ∧ k.toNat ≤ 57)) :
    b ≠ k := by
  rintro rfl
  rcases h with h | h
  · exact hk.1 (congrArg UInt8.toNat h)
  · simp only [isDigitB, Bool.and_eq_true, decide_eq_true_eq, UInt8.le_iff_toNat_le] at h
    exact hk.2 h

theorem skipWs_id (s : Src) (i : Nat) (h : ∀ c, s.at i = some c → isWs c = false) : skipWs s i = i := by
  unfold skipWs
  cases s.size + 1 - i with
  | zero => rw [skipWs.go]
  | succ f =>
    rw [skipWs.go]
    cases hc : s.at i with
    | none => rfl
    | some c => simp [h c hc]

theorem skipWs_byte {s : Src} {i : Nat} {b : UInt8} (h : s.at i = some b) (hb : isWs b = false) : skipWs s i = i := by
  refine skipWs_id s i fun c hc => ?_
  rw [h] at hc
  cases hc; exact hb

theorem matchLit_reads (s : Src) (i : Nat) (lit : String) (h : ReadsAt s i (strBytes lit)) : matchLit s i lit = true := by
  unfold matchLit
  simp only [List.all_eq_true, List.mem_range]
  intro k hk
  rw [h k hk]
  simp [hk]

theorem strBytes_null : strBytes "null" = [110, 117, 108, 108] := by decide
theorem strBytes_true : strBytes "true" = [116, 114, 117, 101] := by decide
theorem strBytes_false : strBytes "false" = [102, 97, 108, 115, 101] := by decide

/-- First byte of a rendered value: never white space, never `]`. -/
theorem Json.render_head (j : Json) (h : j.printable = true) :
    ∃ b rest, j.render = b :: rest ∧ isWs b = false ∧ b ≠ 93 := by
  cases j with
  | null => exact ⟨110, _, rfl, by decide, by decide⟩
  | bool b => cases b <;> exact ⟨_, _, rfl, by decide, by decide⟩
  | num raw =>
    obtain ⟨b, rest, hb, hd⟩ := numOkB_strBytes_head (Json.printable_num ▸ h)
    have ne := minus_or_digit_ne hd
    refine ⟨b, rest, by simp [Json.render, hb], ?_, ne 93 (by decide)⟩
    simp [isWs, ne 32 (by decide), ne 9 (by decide), ne 13 (by decide), ne 10 (by decide)]
  | str v p => exact ⟨34, _, rfl, by decide, by decide⟩
  | arr items => exact ⟨91, _, rfl, by decide, by decide⟩
  | obj fs => exact ⟨123, _, rfl, by decide, by decide⟩

theorem Json.render_pos (j : Json) (h : j.printable = true) : 1 ≤ j.render.length := by
  obtain ⟨b, rest, hb, -⟩ := j.render_head h
  rw [hb]; exact Nat.le_add_left 1 _

theorem parseValue_null {s : Src} {i fuel depth : Nat} (hr : ReadsAt s i Json.null.render) :
    parseValue s (fuel + 1) depth i = some (.null, i + Json.null.render.length) := by
  rw [parseValue]
  simp (decide := true) only [hr.head, matchLit_reads s i "null" (strBytes_null ▸ hr), ↓reduceIte]
  rfl

theorem parseValue_bool {b : Bool} {s : Src} {i fuel depth : Nat} (hr : ReadsAt s i (Json.bool b).render) :
    parseValue s (fuel + 1) depth i = some (.bool b, i + (Json.bool b).render.length) := by
  rw [parseValue]
  cases b with
  | true =>
    simp (decide := true) only [hr.head, matchLit_reads s i "true" (strBytes_true ▸ hr), ↓reduceIte]
    rfl
  | false =>
    simp (decide := true) only [hr.head, matchLit_reads s i "false" (strBytes_false ▸ hr), ↓reduceIte]
    rfl

theorem parseValue_str {v : String} {p : Bool} {s : Src} {i fuel depth : Nat} (hp : (Json.str v p).printable = true) (hr : ReadsAt s i (Json.str v p).render) :
    parseValue s (fuel + 1) depth i = some (.str v p, i + (Json.str v p).render.length) := by
  rw [Json.printable_str] at hp
  simp only [Json.render, renderString] at hr ⊢
  obtain ⟨h0, h1⟩ := ReadsAt.cons.mp hr
  rw [parseValue]
  simp (decide := true) only [h0, ↓reduceIte]
  rw [scanString_render hp.1 h1]
  simp only [List.length_cons, List.length_append, List.length_nil, ← hp.2]
  congr 2; omega

theorem parseValue_num {raw : String} {s : Src} {i fuel depth : Nat} (hp : (Json.num raw).printable = true) (hr : ReadsAt s i (Json.num raw).render)
    (hs : StopAt s (i + (Json.num raw).render.length)) :
    parseValue s (fuel + 1) depth i = some (.num raw, i + (Json.num raw).render.length) := by
  have hn : numOkB raw = true := Json.printable_num ▸ hp
  simp only [Json.render] at hr hs ⊢
  obtain ⟨b, rest, hb, hd⟩ := numOkB_strBytes_head hn
  have h0 : s.at i = some b := by rw [hb] at hr; exact hr.head
  have ne := fun k hk => beq_eq_false_iff_ne.mpr (minus_or_digit_ne hd k hk)
  rw [parseValue]
  -- none of the bytes that open another kind of value
  simp only [h0, ne 123 (by decide), ne 91 (by decide), ne 34 (by decide), ne 116 (by decide), ne 102 (by decide), ne 110 (by decide),
    Bool.false_eq_true, ↓reduceIte, scanNumber_render hn hr hs, sliceString_render hn hr]

/-- What follows an item inside an array: the closing bracket, or a comma and the remaining items. -/
def itemsRest : List Json → Bytes
  | [] => [93]
  | xs => 44 :: renderItems xs ++ [93]

def fieldsRest : List (String × Json) → Bytes
  | [] => [125]
  | fs => 44 :: renderFields fs ++ [125]

theorem itemsRest_pos (xs : List Json) : 1 ≤ (itemsRest xs).length := by cases xs <;> simp [itemsRest]
theorem fieldsRest_pos (fs : List (String × Json)) : 1 ≤ (fieldsRest fs).length := by cases fs <;> simp [fieldsRest]

theorem renderItems_cons (x : Json) (xs : List Json) : renderItems (x :: xs) ++ [93] = x.render ++ itemsRest xs := by
  cases xs <;> simp [renderItems, itemsRest]

theorem renderFields_cons (k : String) (v : Json) (fs : List (String × Json)) :
    renderFields ((k, v) :: fs) ++ [125] = renderString k ++ 58 :: (v.render ++ fieldsRest fs) := by
  cases fs <;> simp [renderFields, fieldsRest]

theorem ReadsAt.render_head {s : Src} {i : Nat} {j : Json} {rest : Bytes} (hp : j.printable = true) (h : ReadsAt s i (j.render ++ rest)) :
    ∃ b, s.at i = some b ∧ isWs b = false ∧ b ≠ 93 := by
  obtain ⟨b, r, hb, hws, h93⟩ := j.render_head hp
  rw [hb] at h
  exact ⟨b, h.head, hws, h93⟩

theorem ReadsAt.itemsRest_stop {s : Src} {k : Nat} {xs : List Json} (h : ReadsAt s k (itemsRest xs)) : StopAt s k := by
  cases xs with
  | nil => exact Or.inr (Or.inr (Or.inr h.head))
  | cons y ys => exact Or.inr (Or.inl h.head)

theorem ReadsAt.fieldsRest_stop {s : Src} {k : Nat} {fs : List (String × Json)} (h : ReadsAt s k (fieldsRest fs)) : StopAt s k := by
  cases fs with
  | nil => exact Or.inr (Or.inr (Or.inl h.head))
  | cons y ys => exact Or.inr (Or.inl h.head)

/-- One round of `parseItems` once its value has been read: a closing bracket ends the array, a comma goes on. -/
theorem parseItems_close {s : Src} {f depth i j : Nat} {acc : List Json} {x : Json} (hv : parseValue s f depth i = some (x, j))
    (h : s.at j = some 93) : parseItems s (f + 1) depth i acc = some (.arr (x :: acc).reverse, j + 1) := by
  rw [parseItems, hv]
  simp (decide := true) only [skipWs_byte h (by decide), h, ↓reduceIte]

theorem parseItems_comma {s : Src} {f depth i j : Nat} {acc : List Json} {x : Json} {b : UInt8} (hv : parseValue s f depth i = some (x, j))
    (h : s.at j = some 44) (hb : s.at (j + 1) = some b) (hws : isWs b = false) :
    parseItems s (f + 1) depth i acc = parseItems s f depth (j + 1) (x :: acc) := by
  rw [parseItems, hv]
  simp only [skipWs_byte h (by decide), h, beq_self_eq_true, ↓reduceIte, skipWs_byte hb hws]

theorem parseFields_step {s : Src} {f depth i j : Nat} {acc : List (String × Json)} {k : String} {v : Json} {b : UInt8}
    (hk : strOk k = true) (hr : ReadsAt s i (renderString k ++ [58]))
    (hb : s.at (i + (renderString k).length + 1) = some b) (hws : isWs b = false)
    (hv : parseValue s f depth (i + (renderString k).length + 1) = some (v, j)) :
    (s.at j = some 125 → parseFields s (f + 1) depth i acc = some (.obj (dedupLast ((k, v) :: acc).reverse), j + 1)) ∧
    (∀ b', s.at j = some 44 → s.at (j + 1) = some b' → isWs b' = false →
      parseFields s (f + 1) depth i acc = parseFields s f depth (j + 1) ((k, v) :: acc)) := by
  obtain ⟨hkey, h58⟩ := ReadsAt.append.mp hr
  obtain ⟨hq, hbody⟩ := ReadsAt.cons.mp (show ReadsAt s i (34 :: (k.toList.flatMap renderChar ++ [34])) from hkey)
  have h58 := h58.head
  have e1 : i + 1 + (k.toList.flatMap renderChar).length + 1 = i + (renderString k).length := by rw [renderString_length]; omega
  have start : parseFields s (f + 1) depth i acc =
      (let j := skipWs s j
       if s.at j == some 44 then parseFields s f depth (skipWs s (j + 1)) ((k, v) :: acc)
       else if s.at j == some 125 then some (.obj (dedupLast ((k, v) :: acc).reverse), j + 1)
       else none) := by
    rw [parseFields]
    simp only [hq, bne_self_eq_false, Bool.false_eq_true, ↓reduceIte, scanString_render hk hbody, e1,
      skipWs_byte h58 (by decide), h58, skipWs_byte hb hws, hv]
  refine ⟨fun h => ?_, fun b' h hb' hws' => ?_⟩
  · rw [start]
    simp (decide := true) only [skipWs_byte h (by decide), h, ↓reduceIte]
  · rw [start]
    simp only [skipWs_byte h (by decide), h, beq_self_eq_true, ↓reduceIte, skipWs_byte hb' hws']

theorem parseValue_arr {s : Src} {f depth i : Nat} {b : UInt8} (h0 : s.at i = some 91) (hd : depth < maxDepth)
    (hb : s.at (i + 1) = some b) (hws : isWs b = false) :
    parseValue s (f + 1) depth i = if b = 93 then some (.arr [], i + 2) else parseItems s f (depth + 1) (i + 1) [] := by
  rw [parseValue]
  simp (decide := true) only [h0, ↓reduceIte, Nat.not_le.mpr hd, skipWs_byte hb hws, hb, Option.some_beq_some, beq_iff_eq]

theorem parseValue_obj {s : Src} {f depth i : Nat} {b : UInt8} (h0 : s.at i = some 123) (hd : depth < maxDepth)
    (hb : s.at (i + 1) = some b) (hws : isWs b = false) :
    parseValue s (f + 1) depth i = if b = 125 then some (.obj [], i + 2) else parseFields s f (depth + 1) (i + 1) [] := by
  rw [parseValue]
  simp only [h0, beq_self_eq_true, ↓reduceIte, Nat.not_le.mpr hd, skipWs_byte hb hws, hb, Option.some_beq_some, beq_iff_eq]

mutual
theorem parseValue_render {j : Json} {s : Src} {i : Nat} (fuel depth : Nat) (hp : j.printable = true) (hr : ReadsAt s i j.render)
    (hs : StopAt s (i + j.render.length)) (hf : j.render.length ≤ fuel) (hd : depth + j.height ≤ maxDepth) :
    parseValue s fuel depth i = some (j, i + j.render.length) := by
  have hpos := j.render_pos hp
  obtain _ | f := fuel
  · omega
  cases j with
  | null => exact parseValue_null hr
  | bool b => exact parseValue_bool hr
  | num raw => exact parseValue_num hp hr hs
  | str v p => exact parseValue_str hp hr
  | arr items =>
    simp only [Json.render, List.length_cons, List.length_append, List.length_nil] at hr hf ⊢
    simp only [Json.height] at hd
    rw [Json.printable_arr] at hp
    obtain ⟨h0, h1⟩ := ReadsAt.cons.mp (show ReadsAt s i (91 :: (renderItems items ++ [93])) from hr)
    cases items with
    | nil =>
      rw [parseValue_arr h0 (by omega) (b := 93) h1.head (by decide)]
      rfl
    | cons x xs =>
      obtain ⟨b, hb, hws, hn93⟩ := (renderItems_cons x xs ▸ h1).render_head (printableList_cons.mp hp).1
      rw [parseValue_arr h0 (by omega) hb hws, if_neg hn93,
        pitems_render (x :: xs) (by simp) s (i + 1) f (depth + 1) [] hp h1 (by omega) (by omega)]
      simp only [List.reverse_nil, List.nil_append]
      simp only [Option.some.injEq, Prod.mk.injEq, true_and]; omega
  | obj fs =>
    simp only [Json.render, List.length_cons, List.length_append, List.length_nil] at hr hf ⊢
    simp only [Json.height] at hd
    rw [Json.printable_obj] at hp
    obtain ⟨h0, h1⟩ := ReadsAt.cons.mp (show ReadsAt s i (123 :: (renderFields fs ++ [125])) from hr)
    cases fs with
    | nil =>
      rw [parseValue_obj h0 (by omega) (b := 125) h1.head (by decide)]
      rfl
    | cons kv rest =>
      obtain ⟨k, v⟩ := kv
      rw [parseValue_obj h0 (by omega) (b := 34) (renderFields_cons k v rest ▸ h1).head (by decide), if_neg (by decide),
        pfields_render ((k, v) :: rest) (by simp) s (i + 1) f (depth + 1) [] hp.1 h1 (by omega) (by omega)]
      simp only [List.reverse_nil, List.nil_append, dedupLast_distinct _ hp.2]
      simp only [Option.some.injEq, Prod.mk.injEq, true_and]; omega

theorem pitems_render (items : List Json) (hne : items ≠ []) (s : Src) (i fuel depth : Nat) (acc : List Json) (hp : printableList items = true)
    (hr : ReadsAt s i (renderItems items ++ [93])) (hf : (renderItems items).length + 1 ≤ fuel) (hd : depth + heightList items ≤ maxDepth) :
    parseItems s fuel depth i acc = some (.arr (acc.reverse ++ items), i + (renderItems items).length + 1) := by
  obtain _ | f := fuel
  · omega
  cases items with
  | nil => exact absurd rfl hne
  | cons x xs =>
    rw [printableList_cons] at hp
    simp only [heightList] at hd
    have hlen := congrArg List.length (renderItems_cons x xs)
    have hrpos := itemsRest_pos xs
    rw [renderItems_cons] at hr
    simp only [List.length_append, List.length_cons, List.length_nil] at hlen
    obtain ⟨hx, hrest⟩ := ReadsAt.append.mp hr
    have hv := parseValue_render f depth hp.1 hx hrest.itemsRest_stop (by omega) (by have := Nat.le_max_left x.height (heightList xs); omega)
    cases xs with
    | nil =>
      rw [parseItems_close hv hrest.head]
      simp only [List.reverse_cons, itemsRest, List.length_cons, List.length_nil] at hlen ⊢
      rfl
    | cons y ys =>
      obtain ⟨h44, hnext⟩ := ReadsAt.cons.mp (show ReadsAt s _ (44 :: (renderItems (y :: ys) ++ [93])) from hrest)
      obtain ⟨b, hb, hws, -⟩ := (renderItems_cons y ys ▸ hnext).render_head (printableList_cons.mp hp.2).1
      simp only [itemsRest, List.length_cons, List.length_append, List.length_nil] at hlen
      rw [parseItems_comma hv h44 hb hws,
        pitems_render (y :: ys) (by simp) s _ f depth (x :: acc) hp.2 hnext (by omega)
          (by have := Nat.le_max_right x.height (heightList (y :: ys)); omega)]
      simp only [List.reverse_cons, List.append_assoc, List.singleton_append]
      simp only [Option.some.injEq, Prod.mk.injEq, true_and]; omega

theorem pfields_render (fs : List (String × Json)) (hne : fs ≠ []) (s : Src) (i fuel depth : Nat) (acc : List (String × Json)) (hp : printableFields fs = true)
    (hr : ReadsAt s i (renderFields fs ++ [125])) (hf : (renderFields fs).length + 1 ≤ fuel) (hd : depth + heightFields fs ≤ maxDepth) :
    parseFields s fuel depth i acc = some (.obj (dedupLast (acc.reverse ++ fs)), i + (renderFields fs).length + 1) := by
  obtain _ | f := fuel
  · omega
  cases fs with
  | nil => exact absurd rfl hne
  | cons kv rest =>
    obtain ⟨k, v⟩ := kv
    rw [printableFields_cons] at hp
    simp only [heightFields] at hd
    have hlen := congrArg List.length (renderFields_cons k v rest)
    have hrpos := fieldsRest_pos rest
    rw [renderFields_cons, ← List.singleton_append, ← List.append_assoc] at hr
    simp only [List.length_append, List.length_cons, List.length_nil] at hlen
    obtain ⟨hkey, hr⟩ := ReadsAt.append.mp hr
    simp only [List.length_append, List.length_singleton] at hr
    obtain ⟨hv, hrest⟩ := ReadsAt.append.mp hr
    obtain ⟨b, hb, hws, -⟩ := hr.render_head hp.1.2
    have hval := parseValue_render f depth hp.1.2 hv hrest.fieldsRest_stop (by omega) (by have := Nat.le_max_left v.height (heightFields rest); omega)
    obtain ⟨close, comma⟩ := parseFields_step (acc := acc) hp.1.1 hkey hb hws hval
    cases rest with
    | nil =>
      rw [close hrest.head]
      simp only [List.reverse_cons, fieldsRest, List.length_cons, List.length_nil] at hlen ⊢
      simp only [Option.some.injEq, Prod.mk.injEq, true_and]; omega
    | cons kv2 rest' =>
      obtain ⟨k2, v2⟩ := kv2
      obtain ⟨h44, hnext⟩ := ReadsAt.cons.mp (show ReadsAt s _ (44 :: (renderFields ((k2, v2) :: rest') ++ [125])) from hrest)
      simp only [fieldsRest, List.length_cons, List.length_append, List.length_nil] at hlen
      rw [comma 34 h44 (renderFields_cons k2 v2 rest' ▸ hnext).head (by decide),
        pfields_render ((k2, v2) :: rest') (by simp) s _ f depth ((k, v) :: acc) hp.2 hnext (by omega)
          (by have := Nat.le_max_right v.height (heightFields ((k2, v2) :: rest')); omega)]
      simp only [List.reverse_cons, List.append_assoc, List.singleton_append]
      simp only [Option.some.injEq, Prod.mk.injEq, true_and]; omega
end

theorem parseJsonWhole_render (j : Json) (hp : j.printable = true) (hh : j.height ≤ maxDepth) : parseJsonWhole j.render = some j := by
  unfold parseJsonWhole
  have hs : (ByteArray.mk j.render.toArray : Src) = srcOf j.render := rfl
  simp only [hs]
  have hr := readsAt_srcOf j.render
  obtain ⟨b, rest, hb, hws, -⟩ := j.render_head hp
  have h0 : (srcOf j.render).at 0 = some b := by rw [hb] at hr ⊢; exact hr.head
  have hend : (srcOf j.render).at j.render.length = none := by
    rw [at_srcOf]; simp
  rw [skipWs_byte h0 hws,
    parseValue_render ((srcOf j.render).size + 2) 0 hp hr (Or.inl (by rwa [Nat.zero_add])) (by rw [size_srcOf]; omega) (by omega)]
  simp only [Nat.zero_add]
  rw [skipWs_id _ _ (fun c hc => by rw [hend] at hc; cases hc), size_srcOf]
  simp

end Orbiter
