/-
  Genesis. `validateGenesis` and its entry validators as the conjunction of what their guards ask. `initGenesis`: its three pause
  stages are folds of guarded insertions, each described by one equivalence (`foldlM_insert_ok`; the cross-chain one is stated
  over `l.map some`, and a stage that succeeded ran over such a list, `foldlM_initCcStep_some`); success is success of the five
  stages in turn (`initGenesis_ok`), the pause stages starting from what the statistics stages leave, whose admin fields are
  still the initial ones (`statsStages_sameAdmin`). `initGenesis_admin`, `reimportStep_admin`: what survives of the parameters
  and of each pause set (its membership test and duplicate-freeness, not the list), all that C08 and C18 need.
-/
import Orbiter.Lemmas.Msg
import Orbiter.Lemmas.State
namespace Orbiter

theorem asPanic_eq_ok {r : Res OrbState} {o : OrbState} : asPanic r = .ok o ↔ r = .ok o := by
  cases r <;> simp [asPanic]

theorem asPanic_ok' (o : OrbState) : asPanic (.ok o) = .ok o := asPanic_eq_ok.mpr rfl

theorem hasDup_eq_false_iff {α} [DecidableEq α] (l : List α) : hasDup l = false ↔ l.Nodup := by
  induction l with
  | nil => simp [hasDup]
  | cons x xs ih => simp [hasDup, ih]

theorem validId_some {c : Option (Int × String)} (h : validId c = true) : ∃ p cp, c = some (p, cp) ∧ crossChainValid p cp = true := by
  cases c with
  | none => simp [validId] at h
  | some pc => exact ⟨pc.1, pc.2, rfl, by simpa [validId] using h⟩

theorem validateAmtEntry_ok {src dst : Option (Int × String)} {denom : String} {inc out : Int} :
    validateAmtEntry (src, dst, denom, inc, out) = .ok () ↔
      denom ≠ "" ∧ validId src = true ∧ validId dst = true ∧ ¬ (inc < 0 ∨ out < 0) ∧ ¬ (inc ≤ 0 ∧ out ≤ 0) := by
  simp only [validateAmtEntry, Res.bind_err, Res.ite_err_eq_ok, Res.pure_eq, beq_iff_eq, Bool.not_eq_true', Bool.not_eq_false,
    Bool.or_eq_true, Bool.and_eq_true, decide_eq_true_eq, and_true, ne_eq]

theorem validateCntEntry_ok {src dst : Option (Int × String)} {n : Nat} :
    validateCntEntry (src, dst, n) = .ok () ↔ n ≠ 0 ∧ validId src = true ∧ validId dst = true := by
  simp only [validateCntEntry, Res.bind_err, Res.ite_err_eq_ok, Res.pure_eq, beq_iff_eq, Bool.not_eq_true', Bool.not_eq_false,
    and_true, ne_eq]

theorem validateGenesis_ok {g : Genesis} :
    validateGenesis g = .ok () ↔
      (∀ a ∈ g.amounts, validateAmtEntry a = .ok ()) ∧ (∀ c ∈ g.counts, validateCntEntry c = .ok ()) ∧
      (∀ p ∈ g.pausedProtocols, protocolValid p = true) ∧ (∀ c ∈ g.pausedCrossChains, validId c = true) ∧
      g.pausedProtocols.Nodup ∧ g.pausedCrossChains.Nodup ∧
      (∀ a ∈ g.pausedActions, actionValid a = true) ∧ g.pausedActions.Nodup := by
  simp only [validateGenesis, Res.seq_eq_ok, Res.allM_eq_ok, Res.bind_err, Res.ite_err_eq_ok, Res.pure_eq, List.any_eq_true,
    Bool.not_eq_true', not_exists, not_and, Bool.not_eq_false, Bool.not_eq_true, hasDup_eq_false_iff, and_true]

theorem validId_all_some : ∀ (L : List (Option (Int × String))), (∀ c ∈ L, validId c = true) →
    ∃ l : List (Int × String), L = l.map some ∧ ∀ x ∈ l, crossChainValid x.1 x.2 = true
  | [], _ => ⟨[], rfl, fun _ h => nomatch h⟩
  | c :: rest, hv => by
    obtain ⟨p, cp, rfl, hx⟩ := validId_some (hv c List.mem_cons_self)
    obtain ⟨l, rfl, hl⟩ := validId_all_some rest fun c hc => hv c (List.mem_cons_of_mem _ hc)
    exact ⟨(p, cp) :: l, rfl, fun x hm => (List.mem_cons.mp hm).elim (· ▸ hx) (hl x)⟩

/-- A fold of guarded insertions into one field of a state (`get`/`put`: read and overwrite that field) succeeds exactly on a
duplicate-free list of valid elements none of which is present, and then inserts them one by one. The three pause stages of
`initGenesis` are instances. -/
theorem foldlM_insert_ok {σ α : Type} (lt : α → α → Bool) (V : α → Prop) (get : σ → List α) (put : List α → σ → σ)
    (step : σ → α → Res σ)
    (hstep : ∀ s x s', step s x = .ok s' ↔ V x ∧ x ∉ get s ∧ s' = put (insertBy lt x (get s)) s)
    (get_put : ∀ l s, get (put l s) = l) (put_put : ∀ l l' s, put l (put l' s) = put l s) (put_get : ∀ s, put (get s) s = s)
    {l : List α} {s s' : σ} :
    l.foldlM step s = .ok s' ↔
      (∀ x ∈ l, V x) ∧ l.Nodup ∧ (∀ x ∈ l, x ∉ get s) ∧ s' = put (l.foldl (fun a x => insertBy lt x a) (get s)) s := by
  induction l generalizing s with
  | nil => simp [put_get, eq_comm]
  | cons x rest ih =>
    simp only [List.foldlM_cons, Res.bind_eq_ok, hstep, List.foldl_cons, List.mem_cons, forall_eq_or_imp, List.nodup_cons]
    constructor
    · rintro ⟨s1, ⟨hv, hn, rfl⟩, h⟩
      obtain ⟨h1, h2, h3, rfl⟩ := ih.mp h
      simp only [get_put, put_put, mem_insertBy, not_or] at h3 ⊢
      exact ⟨⟨hv, h1⟩, ⟨fun hm => (h3 x hm).1 rfl, h2⟩, ⟨hn, fun y hy => (h3 y hy).2⟩, trivial⟩
    · rintro ⟨⟨hv, h1⟩, ⟨hx, h2⟩, ⟨hn, h3⟩, rfl⟩
      refine ⟨_, ⟨hv, hn, rfl⟩, ih.mpr ⟨h1, h2, ?_, ?_⟩⟩
      · intro y hy
        simp only [get_put, mem_insertBy, not_or]
        exact ⟨fun e => hx (e ▸ hy), h3 y hy⟩
      · simp only [get_put, put_put]

theorem foldlM_setPausedProtocol_ok {l : List Int} {o o' : OrbState} :
    l.foldlM (fun o p => asPanic (setPausedProtocol o p)) o = .ok o' ↔
      (∀ p ∈ l, protocolValid p = true) ∧ l.Nodup ∧ (∀ p ∈ l, p ∉ o.pausedProtocols) ∧
      o' = { o with pausedProtocols := l.foldl (fun a x => insertBy intLt x a) o.pausedProtocols } :=
  foldlM_insert_ok intLt (protocolValid · = true) (·.pausedProtocols) (fun l o => { o with pausedProtocols := l }) _
    (fun _ _ _ => asPanic_eq_ok.trans setPausedProtocol_ok) (fun _ _ => rfl) (fun _ _ _ => rfl) (fun _ => rfl)

theorem foldlM_setPausedAction_ok {l : List Int} {o o' : OrbState} :
    l.foldlM (fun o a => asPanic (setPausedAction o a)) o = .ok o' ↔
      (∀ a ∈ l, actionValid a = true) ∧ l.Nodup ∧ (∀ a ∈ l, a ∉ o.pausedActions) ∧
      o' = { o with pausedActions := l.foldl (fun acc x => insertBy intLt x acc) o.pausedActions } :=
  foldlM_insert_ok intLt (actionValid · = true) (·.pausedActions) (fun l o => { o with pausedActions := l }) _
    (fun _ _ _ => asPanic_eq_ok.trans setPausedAction_ok) (fun _ _ => rfl) (fun _ _ _ => rfl) (fun _ => rfl)

theorem foldlM_initCcStep_ok {l : List (Int × String)} {o o' : OrbState} :
    (l.map some).foldlM initCcStep o = .ok o' ↔
      (∀ x ∈ l, crossChainValid x.1 x.2 = true) ∧ l.Nodup ∧ (∀ x ∈ l, x ∉ o.pausedCrossChains) ∧
      o' = { o with pausedCrossChains := l.foldl (fun acc x => insertBy ccLt x acc) o.pausedCrossChains } := by
  rw [List.foldlM_map]
  exact foldlM_insert_ok ccLt (fun x => crossChainValid x.1 x.2 = true) (·.pausedCrossChains) (fun l o => { o with pausedCrossChains := l })
    (fun o x => initCcStep o (some x)) (fun _ (_, _) _ => asPanic_eq_ok.trans setPausedCrossChain_ok)
    (fun _ _ => rfl) (fun _ _ _ => rfl) (fun _ => rfl)

theorem foldlM_initCcStep_some {L : List (Option (Int × String))} {o o' : OrbState} (h : L.foldlM initCcStep o = .ok o') :
    ∃ l : List (Int × String), L = l.map some := by
  induction L generalizing o with
  | nil => exact ⟨[], rfl⟩
  | cons x rest ih =>
    rw [List.foldlM_cons] at h
    obtain ⟨o1, h1, h2⟩ := Res.bind_eq_ok.mp h
    cases x with
    | none => cases h1
    | some pc =>
      obtain ⟨l, rfl⟩ := ih h2
      exact ⟨pc :: l, rfl⟩

theorem contains_map_some {α} [BEq α] [LawfulBEq α] (l : List α) (q : α) : (l.map some).contains (some q) = l.contains q := by
  rw [Bool.eq_iff_iff]
  simp

theorem nodup_map_some {α} (l : List α) : (l.map some).Nodup ↔ l.Nodup :=
  ⟨List.Pairwise.of_map some fun _ _ h e => h (congrArg some e), List.Pairwise.map some fun _ _ h e => h (Option.some.inj e)⟩

theorem initAmtStep_ok {o o' : OrbState} {a : Option (Int × String) × Option (Int × String) × String × Int × Int} :
    initAmtStep o a = .ok o' ↔ ∃ src dst, a.1 = some src ∧ a.2.1 = some dst ∧
      hasNul src.2 = false ∧ hasNul (ccidString dst.1 dst.2) = false ∧ (parseCrossChainID (ccidString dst.1 dst.2)).isSome = true ∧
      o' = { o with amounts := upsert amtLt o.amounts ⟨src.1, src.2, ccidString dst.1 dst.2, a.2.2.1⟩ a.2.2.2 } := by
  obtain ⟨_ | src, _ | dst, den, i, u⟩ := a
  all_goals simp [initAmtStep, Res.ite_panic_eq_ok, eq_comm (a := o'), and_assoc, Option.isSome_iff_ne_none]

theorem initCntStep_ok {o o' : OrbState} {c : Option (Int × String) × Option (Int × String) × Nat} :
    initCntStep o c = .ok o' ↔ ∃ src dst, c.1 = some src ∧ c.2.1 = some dst ∧ hasNul src.2 = false ∧
      o' = { o with counts := upsert cntLt o.counts ⟨src.1, src.2, dst.1, dst.2⟩ c.2.2 } := by
  obtain ⟨_ | src, _ | dst, n⟩ := c
  all_goals simp [initCntStep, Res.ite_panic_eq_ok, eq_comm (a := o')]

theorem statsStages_sameAdmin {la : List (Option (Int × String) × Option (Int × String) × String × Int × Int)}
    {lc : List (Option (Int × String) × Option (Int × String) × Nat)} {o o1 o2 : OrbState}
    (h1 : la.foldlM initAmtStep o = .ok o1) (h2 : lc.foldlM initCntStep o1 = .ok o2) : o2.sameAdmin o := by
  refine Res.foldlM_inv (·.sameAdmin o) (fun _ _ _ _ hb hs => ?_) ?_ h2
  · obtain ⟨src, dst, -, -, -, rfl⟩ := initCntStep_ok.mp hs
    exact hb.with_counts _
  refine Res.foldlM_inv (·.sameAdmin o) (fun _ _ _ _ hb hs => ?_) (OrbState.sameAdmin_refl o) h1
  obtain ⟨src, dst, -, -, -, -, -, rfl⟩ := initAmtStep_ok.mp hs
  exact hb.with_amounts _

theorem initGenesis_ok {g : Genesis} {o : OrbState} :
    initGenesis g = .ok o ↔ ∃ o1 o2 o3 o4, g.amounts.foldlM initAmtStep { params := some g.params } = .ok o1 ∧
      g.counts.foldlM initCntStep o1 = .ok o2 ∧ g.pausedProtocols.foldlM (fun o p => asPanic (setPausedProtocol o p)) o2 = .ok o3 ∧
      g.pausedCrossChains.foldlM initCcStep o3 = .ok o4 ∧ g.pausedActions.foldlM (fun o a => asPanic (setPausedAction o a)) o4 = .ok o := by
  simp only [initGenesis, Res.bind_eq_ok, exists_and_left]

theorem initGenesis_admin {g : Genesis} {o : OrbState} (h : initGenesis g = .ok o) :
    o.params = some g.params ∧ (o.pausedProtocols.Nodup ∧ o.pausedCrossChains.Nodup ∧ o.pausedActions.Nodup) ∧
    (∀ q, o.pausedProtocols.contains q = g.pausedProtocols.contains q) ∧
    (∀ q, o.pausedCrossChains.contains q = g.pausedCrossChains.contains (some q)) ∧
    (∀ q, o.pausedActions.contains q = g.pausedActions.contains q) := by
  obtain ⟨o1, o2, o3, o4, h1, h2, h3, h4, h⟩ := initGenesis_ok.mp h
  have p2 : o2.sameAdmin { params := some g.params } := statsStages_sameAdmin h1 h2
  -- so the pause stages start from three empty sets
  obtain ⟨pp, pc, pa, pr, am, cn⟩ := o2
  obtain ⟨rfl, rfl, rfl, rfl⟩ := p2
  obtain ⟨l, hl⟩ := foldlM_initCcStep_some h4
  rw [hl] at h4 ⊢
  obtain ⟨_, n3, _, rfl⟩ := foldlM_setPausedProtocol_ok.mp h3
  obtain ⟨_, n4, _, rfl⟩ := foldlM_initCcStep_ok.mp h4
  obtain ⟨_, n5, _, rfl⟩ := foldlM_setPausedAction_ok.mp h
  simp only [← sortBy_eq_foldl]
  exact ⟨trivial, ⟨nodup_sortBy intLt n3, nodup_sortBy ccLt n4, nodup_sortBy intLt n5⟩,
    contains_sortBy intLt _,
    fun q => (contains_sortBy ccLt l q).trans (contains_map_some l q).symm,
    contains_sortBy intLt _⟩

theorem initGenesis_params {g : Genesis} {o : OrbState} (h : initGenesis g = .ok o) : o.params = some g.params :=
  (initGenesis_admin h).1

theorem reimportStep_snd (o : OrbState) :
    (reimportStep o).2 = match initGenesis (exportGenesis o) with | .ok o' => o' | _ => o := by
  simp only [reimportStep]
  cases initGenesis (exportGenesis o) <;> rfl

theorem reimportStep_admin (o : OrbState) :
    (reimportStep o).2.params.getD 0 = o.params.getD 0 ∧
    (o.pausedProtocols.Nodup ∧ o.pausedCrossChains.Nodup ∧ o.pausedActions.Nodup →
      (reimportStep o).2.pausedProtocols.Nodup ∧ (reimportStep o).2.pausedCrossChains.Nodup ∧ (reimportStep o).2.pausedActions.Nodup) ∧
    (∀ q, (reimportStep o).2.pausedProtocols.contains q = o.pausedProtocols.contains q) ∧
    (∀ q, (reimportStep o).2.pausedCrossChains.contains q = o.pausedCrossChains.contains q) ∧
    (∀ q, (reimportStep o).2.pausedActions.contains q = o.pausedActions.contains q) := by
  rw [reimportStep_snd]
  cases h : initGenesis (exportGenesis o) with
  | ok o' =>
    obtain ⟨hp, hn, h1, h2, h3⟩ := initGenesis_admin h
    exact ⟨by rw [hp]; rfl, fun _ => hn, h1, fun q => (h2 q).trans (contains_map_some _ q), h3⟩
  | _ => exact ⟨rfl, id, fun _ => rfl, fun _ => rfl, fun _ => rfl⟩

end Orbiter
