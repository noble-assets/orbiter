/-
  The primitive operations of the cached context (`Ctx.call`, `send`, `burn`, `emit`): what a successful one is and, for `call` and `send`, what error a
  refused one carries; the ledger (`Ledger.send_bal`, …) as the replay of the recorded moves (`Ledger.replay_rel`, `replay_le`,
  `replay_takes`, `Ctx.Steps`); and the relation `Ctx.Eff` — the effect of a successful stage on the context — in which the stage
  lemmas of `Lemmas/Recv.lean` are stated (`Ctx.Clean`: no registered call was failed).
-/
import Orbiter.Recv
import Orbiter.Lemmas.Res
namespace Orbiter

theorem Ctx.call_ok {φ : Faults} {c c' : Ctx} {site : String} (h : Ctx.call φ c site = .ok c') :
    c' = { c with calls := c.calls ++ [(site, c.count site + 1)] } ∧ φ site (c.count site + 1) = false := by
  unfold Ctx.call at h
  simp only at h
  split at h
  · cases h
  · rename_i hf
    simp only [Res.ok.injEq] at h
    exact ⟨h.symm, by simpa using hf⟩

theorem Ctx.send_ok {c c' : Ctx} {src dst : Addr} {d tag : String} {amt : Nat} (h : c.send src dst d amt tag = .ok c') :
    ∃ b, c.bank.send src dst d amt = some b ∧ c' = { c with bank := b, moves := c.moves ++ [.xfer src dst d amt] } := by
  unfold Ctx.send at h
  split at h
  · cases h
  · split at h
    · cases h
    · rename_i b hb
      simp only [Res.ok.injEq] at h
      exact ⟨b, hb, h.symm⟩

theorem Ctx.burn_ok {c c' : Ctx} {src : Addr} {d tag : String} {amt : Nat} (h : c.burn src d amt tag = .ok c') :
    ∃ b, c.bank.burn src d amt = some b ∧ c' = { c with bank := b, moves := c.moves ++ [.burn src d amt] } := by
  unfold Ctx.burn at h
  split at h
  · cases h
  · rename_i b hb
    simp only [Res.ok.injEq] at h
    exact ⟨b, hb, h.symm⟩

theorem Ctx.emit_ok {φ : Faults} {c c' : Ctx} {ev : String} (h : c.emit φ ev = .ok c') :
    c' = { c with calls := c.calls ++ [("event.Emit", c.count "event.Emit" + 1)], events := c.events ++ [ev] } ∧
      φ "event.Emit" (c.count "event.Emit" + 1) = false := by
  unfold Ctx.emit at h
  obtain ⟨c1, h1, h⟩ := Res.bind_eq_ok.mp h
  obtain ⟨rfl, hf⟩ := Ctx.call_ok h1
  simp only [Res.pure_eq, Res.ok.injEq] at h
  exact ⟨h.symm, hf⟩

theorem Ctx.call_err {φ : Faults} {c : Ctx} {site e : String} (h : Ctx.call φ c site = .err e) : e = "fault:" ++ site := by
  unfold Ctx.call at h
  simp only at h
  split at h <;> cases h
  rfl

theorem Ctx.send_err {c : Ctx} {src dst : Addr} {d tag e : String} {amt : Nat} (h : c.send src dst d amt tag = .err e) :
    e = tag ∨ e = tag ++ ":ftf-send-restriction" := by
  unfold Ctx.send at h
  split at h
  · exact Or.inr (Res.err.inj h).symm
  · split at h <;> cases h
    exact Or.inl rfl

theorem Ctx.emit_reqs {φ : Faults} {c c' : Ctx} {ev : String} (h : c.emit φ ev = .ok c') : c'.reqs = c.reqs := by
  rw [(Ctx.emit_ok h).1]

namespace Ledger

theorem send_bal {l l' : Ledger} {src dst : Addr} {d : String} {amt : Nat} (h : l.send src dst d amt = some l') (a : Addr) (d' : String) :
    l'.bal a d' =
      if d' = d then
        (if a = src ∧ a = dst then l.bal a d'
         else if a = src then l.bal a d' - amt
         else if a = dst then l.bal a d' + amt
         else l.bal a d')
      else l.bal a d' := by
  unfold send at h
  split at h
  · cases h
  · rename_i hge
    simp only [Option.some.injEq] at h
    subst h
    simp only [setBal]
    by_cases hd : d' = d
    · subst hd
      by_cases h1 : a = src <;> by_cases h2 : a = dst
      · subst h1; subst h2
        simp only [and_self, ↓reduceIte]
        omega
      · subst h1
        simp [h2]
      · subst h2
        simp [h1]
      · simp [h1, h2]
    · simp [hd]

theorem send_supply {l l' : Ledger} {src dst : Addr} {d : String} {amt : Nat} (h : l.send src dst d amt = some l') :
    l'.supply = l.supply := by
  unfold send at h
  split at h
  · cases h
  · simp only [Option.some.injEq] at h
    subst h
    rfl

theorem send_enough {l l' : Ledger} {src dst : Addr} {d : String} {amt : Nat} (h : l.send src dst d amt = some l') :
    amt ≤ l.bal src d := by
  unfold send at h
  split at h
  · cases h
  · rename_i hge; omega

theorem burn_bal {l l' : Ledger} {src : Addr} {d : String} {amt : Nat} (h : l.burn src d amt = some l') (a : Addr) (d' : String) :
    l'.bal a d' = if a = src ∧ d' = d then l.bal a d' - amt else l.bal a d' := by
  unfold burn at h
  split at h
  · cases h
  · simp only [Option.some.injEq] at h
    subst h
    simp only [setBal]
    by_cases h1 : a = src ∧ d' = d
    · obtain ⟨rfl, rfl⟩ := h1; simp
    · simp [h1]

theorem burn_supply {l l' : Ledger} {src : Addr} {d : String} {amt : Nat} (h : l.burn src d amt = some l') (dn : String) :
    l'.supply dn = if dn = d then l.supply d - amt else l.supply dn := by
  unfold burn at h
  split at h
  · cases h
  · simp only [Option.some.injEq] at h; subst h; rfl

theorem mint_bal (l : Ledger) (dst : Addr) (d : String) (amt : Nat) (a : Addr) (d' : String) :
    (l.mint dst d amt).bal a d' = if a = dst ∧ d' = d then l.bal a d' + amt else l.bal a d' := by
  simp only [mint, setBal]
  by_cases h1 : a = dst ∧ d' = d
  · obtain ⟨rfl, rfl⟩ := h1; simp
  · simp [h1]

end Ledger

def Ledger.apply (l : Ledger) : Move → Option Ledger
  | .xfer s d dn a => l.send s d dn a
  | .burn s dn a => l.burn s dn a
  | .mint d dn a => some (l.mint d dn a)

def Ledger.replay (l : Ledger) (ms : List Move) : Option Ledger := ms.foldlM Ledger.apply l

theorem Ledger.replay_nil (l : Ledger) : l.replay [] = some l := rfl

theorem Ledger.replay_singleton (l : Ledger) (m : Move) : l.replay [m] = l.apply m := by
  simp only [Ledger.replay, List.foldlM_cons, List.foldlM_nil]
  cases l.apply m <;> rfl

theorem Ledger.replay_append (l : Ledger) (a b : List Move) :
    l.replay (a ++ b) = (l.replay a).bind fun l' => l'.replay b := by
  simp only [Ledger.replay, List.foldlM_append]
  rfl

theorem Ledger.replay_cons (l : Ledger) (m : Move) (ms : List Move) :
    l.replay (m :: ms) = (l.apply m).bind fun l' => l'.replay ms := by
  simp only [Ledger.replay, List.foldlM_cons]
  rfl

theorem Ledger.replay_rel {R : Ledger → Ledger → Prop} (refl : ∀ l, R l l) (trans : ∀ {a b c}, R a b → R b c → R a c)
    {ms : List Move} (step : ∀ m ∈ ms, ∀ l l', l.apply m = some l' → R l l') {l l' : Ledger} (h : l.replay ms = some l') : R l l' := by
  induction ms generalizing l with
  | nil => cases h; exact refl _
  | cons m rest ih =>
    rw [Ledger.replay_cons] at h
    cases hm : l.apply m with
    | none => simp [hm] at h
    | some l1 =>
      rw [hm] at h
      exact trans (step m List.mem_cons_self l l1 hm) (ih (fun x hx => step x (List.mem_cons_of_mem _ hx)) h)

/-- The move adds to a balance of `x` (a transfer of `x` to itself does not). -/
def Move.credits (x : Addr) : Move → Prop
  | .xfer s d _ _ => d = x ∧ s ≠ x
  | .burn .. => False
  | .mint d _ _ => d = x

theorem Move.xfer_not_credits_src (x d : Addr) (dn : String) (n : Nat) : ¬ (Move.xfer x d dn n).credits x :=
  fun h => h.2 rfl

theorem Ledger.replay_le {ms : List Move} {l l' : Ledger} (h : l.replay ms = some l') {x : Addr}
    (hx : ∀ m ∈ ms, ¬ m.credits x) (d : String) : l'.bal x d ≤ l.bal x d := by
  refine Ledger.replay_rel (R := fun l l' => l'.bal x d ≤ l.bal x d) (fun _ => Nat.le_refl _) (fun h1 h2 => Nat.le_trans h2 h1) ?_ h
  intro m hm l l' ha
  have hc := hx m hm
  cases m with
  | xfer s t dn n =>
    have hc : t = x → s = x := by simpa [Move.credits] using hc
    rw [Ledger.send_bal ha x d]
    by_cases hs : x = s
    · subst hs
      simp only [true_and, ↓reduceIte]
      split
      · split <;> omega
      · exact Nat.le_refl _
    · have ht : ¬ x = t := fun e => hs (hc e.symm).symm
      simp [hs, ht]
  | burn s dn n => rw [Ledger.burn_bal ha x d]; split <;> omega
  | mint t dn n =>
    cases ha
    rw [Ledger.mint_bal]
    have : ¬ (x = t) := fun e => hc e.symm
    simp [this]

theorem Ledger.replay_takes {ms : List Move} {l l' : Ledger} {x y : Addr} {d : String} {n : Nat}
    (h : l.replay (.xfer x y d n :: ms) = some l') (hy : y ≠ x) (hx : ∀ m ∈ ms, ¬ m.credits x) :
    l'.bal x d ≤ l.bal x d - n := by
  rw [Ledger.replay_cons] at h
  cases hs : l.apply (.xfer x y d n) with
  | none => simp [hs] at h
  | some l1 =>
    rw [hs] at h
    have hne : ¬ x = y := fun e => hy e.symm
    have := Ledger.send_bal hs x d
    simp only [hne, and_false, ↓reduceIte] at this
    exact this ▸ Ledger.replay_le h hx d

theorem Ledger.replay_supply_unchanged {ms : List Move} {l l' : Ledger} (h : l.replay ms = some l')
    (hx : ∀ m ∈ ms, ∃ s d dn n, m = .xfer s d dn n) : l'.supply = l.supply := by
  refine Ledger.replay_rel (R := fun l l' => l'.supply = l.supply) (fun _ => rfl) (fun h1 h2 => h2.trans h1) ?_ h
  intro m hm l l' ha
  obtain ⟨s, d, dn, n, rfl⟩ := hx m hm
  exact Ledger.send_supply ha

theorem Ledger.replay_supply_le {ms : List Move} {l l' : Ledger} (h : l.replay ms = some l')
    (hx : ∀ m ∈ ms, ∀ a d n, m ≠ .mint a d n) (dn : String) : l'.supply dn ≤ l.supply dn := by
  refine Ledger.replay_rel (R := fun l l' => l'.supply dn ≤ l.supply dn) (fun _ => Nat.le_refl _) (fun h1 h2 => Nat.le_trans h2 h1) ?_ h
  intro m hm l l' ha
  cases m with
  | xfer s d dd n => rw [Ledger.send_supply ha]; exact Nat.le_refl _
  | burn s dd n =>
    rw [Ledger.burn_supply ha dn]
    split
    · rename_i e; subst e; exact Nat.sub_le _ _
    · exact Nat.le_refl _
  | mint dd d n => exact absurd rfl (hx _ hm dd d n)

/-- `c'` is `c` after exactly the moves `ms`: they were appended to the record and the ledger is their replay. -/
structure Ctx.Steps (c c' : Ctx) (ms : List Move) : Prop where
  moves : c'.moves = c.moves ++ ms
  bank : c.bank.replay ms = some c'.bank

theorem Ctx.Steps.refl (c : Ctx) : Ctx.Steps c c [] := ⟨by simp, rfl⟩

theorem Ctx.Steps.bank_eq {c c' : Ctx} (h : Ctx.Steps c c' []) : c'.bank = c.bank := (Option.some.inj h.bank).symm

theorem Ctx.Steps.send_eq {c c' : Ctx} {src dst : Addr} {d : String} {n : Nat} (h : Ctx.Steps c c' [.xfer src dst d n]) :
    c.bank.send src dst d n = some c'.bank :=
  (Ledger.replay_singleton _ _).symm.trans h.bank

theorem Ctx.Steps.trans {a b c : Ctx} {m1 m2 : List Move} (h1 : Ctx.Steps a b m1) (h2 : Ctx.Steps b c m2) :
    Ctx.Steps a c (m1 ++ m2) := by
  refine ⟨by rw [h2.moves, h1.moves, List.append_assoc], ?_⟩
  rw [Ledger.replay_append, h1.bank]
  exact h2.bank

/-- What a successful stage of the receive path did to the context. `calls` is a bound on `c'.calls` (all the properties need): that
the calls of `c` are still there is not recorded. The wrapped ICS-20 application is not such a stage (it updates
`ext.totalEscrow`): it has `Ctx.Steps` only. -/
structure Ctx.Eff (φ : Faults) (c c' : Ctx) (ms : List Move) (rs : List Req) : Prop extends Ctx.Steps c c' ms where
  reqs : c'.reqs = c.reqs ++ rs
  ext : c'.ext = c.ext
  calls : ∀ x ∈ c'.calls, x ∈ c.calls ∨ φ x.1 x.2 = false

theorem Ctx.Eff.refl (φ : Faults) (c : Ctx) : Ctx.Eff φ c c [] [] := ⟨Ctx.Steps.refl c, by simp, rfl, fun _ h => Or.inl h⟩

theorem Ctx.Eff.trans {φ : Faults} {a b c : Ctx} {m1 m2 : List Move} {r1 r2 : List Req}
    (h1 : Ctx.Eff φ a b m1 r1) (h2 : Ctx.Eff φ b c m2 r2) : Ctx.Eff φ a c (m1 ++ m2) (r1 ++ r2) :=
  ⟨h1.toSteps.trans h2.toSteps, by rw [h2.reqs, h1.reqs, List.append_assoc], h2.ext.trans h1.ext,
    fun x hx => (h2.calls x hx).elim (h1.calls x) Or.inr⟩

theorem Ctx.call_eff {φ : Faults} {c c' : Ctx} {site : String} (h : Ctx.call φ c site = .ok c') : Ctx.Eff φ c c' [] [] := by
  obtain ⟨rfl, hf⟩ := Ctx.call_ok h
  refine ⟨⟨by simp, rfl⟩, by simp, rfl, fun x hx => ?_⟩
  rcases List.mem_append.mp hx with hx | hx
  · exact Or.inl hx
  · cases List.mem_singleton.mp hx; exact Or.inr hf

/-- The event itself is no part of the effect: `emit` is a registered call. -/
theorem Ctx.emit_eff {φ : Faults} {c c' : Ctx} {ev : String} (h : c.emit φ ev = .ok c') : Ctx.Eff φ c c' [] [] := by
  obtain ⟨c1, h1, h⟩ := Res.bind_eq_ok.mp h
  cases h
  have e := Ctx.call_eff h1
  exact ⟨⟨e.moves, e.bank⟩, e.reqs, e.ext, e.calls⟩

theorem Ctx.send_eff {φ : Faults} {c c' : Ctx} {src dst : Addr} {d tag : String} {amt : Nat} (h : c.send src dst d amt tag = .ok c') :
    Ctx.Eff φ c c' [.xfer src dst d amt] [] := by
  obtain ⟨b, hb, rfl⟩ := Ctx.send_ok h
  exact ⟨⟨rfl, by simp [Ledger.replay, Ledger.apply, hb]⟩, by simp, rfl, fun _ hx => Or.inl hx⟩

theorem Ctx.send_steps {c c' : Ctx} {src dst : Addr} {d tag : String} {amt : Nat} (h : c.send src dst d amt tag = .ok c') :
    Ctx.Steps c c' [.xfer src dst d amt] :=
  (Ctx.send_eff (φ := noFaults) h).toSteps

theorem Ctx.burn_eff {φ : Faults} {c c' : Ctx} {src : Addr} {d tag : String} {amt : Nat} (h : c.burn src d amt tag = .ok c') :
    Ctx.Eff φ c c' [.burn src d amt] [] := by
  obtain ⟨b, hb, rfl⟩ := Ctx.burn_ok h
  exact ⟨⟨rfl, by simp [Ledger.replay, Ledger.apply, hb]⟩, by simp, rfl, fun _ hx => Or.inl hx⟩

/-- A controller records its request before it calls the bridge. -/
theorem Ctx.req_eff (φ : Faults) (c : Ctx) (r : Req) : Ctx.Eff φ c { c with reqs := c.reqs ++ [r] } [] [r] :=
  ⟨⟨by simp, rfl⟩, rfl, rfl, fun _ hx => Or.inl hx⟩

/-- …so a recorded request, the registered call and the effect `ms` of what the bridge then does make up the effect of a controller. -/
theorem Ctx.reqCall_eff {φ : Faults} {c c1 c' : Ctx} {r : Req} {site : String} {ms : List Move}
    (h1 : Ctx.call φ { c with reqs := c.reqs ++ [r] } site = .ok c1) (h : Ctx.Eff φ c1 c' ms []) : Ctx.Eff φ c c' ms [r] := by
  simpa using ((Ctx.req_eff φ c r).trans (Ctx.call_eff h1)).trans h

/-- No registered call was failed by the oracle. -/
def Ctx.Clean (φ : Faults) (c : Ctx) : Prop := ∀ s k, (s, k) ∈ c.calls → φ s k = false

theorem Ctx.Eff.clean {φ : Faults} {c c' : Ctx} {ms : List Move} {rs : List Req} (h : Ctx.Eff φ c c' ms rs) (hc : c.Clean φ) :
    c'.Clean φ :=
  fun s k hm => (h.calls (s, k) hm).elim (hc s k) id

end Orbiter
