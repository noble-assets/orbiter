/-
  The tree level of the round trip (C15): every decoder inverts its encoder — decimal numbers, `math.Int`, base64 (`sextets_bytes`:
  the bit fields of a 3-byte group do not overlap), enum names, then the messages field by field up to `decPayload_enc`; the three
  checks `parsePayload` runs on the whole tree pass on a marshalled tree (`Json.preOk`, `encWrapper_preOk`).
-/
import Orbiter.Encode
import Orbiter.Lemmas.Ascii
import Orbiter.Lemmas.Jsonpb

namespace Orbiter

theorem decUint32_encUint (n : Nat) (h : n < 2 ^ 32) : decUint32 (encUint n) = .ok n := by
  unfold decUint32 encUint uintOfLiteral
  simp only [natToDec_toList, allDigits_natDigits, decVal_natDigits, ↓reduceIte, h]

theorem decString_encStr (s : String) : decString (encStr s) = .ok s := rfl

theorem encStr_eq (s : String) : encStr s = .str s (s.toList.all rawChar) := rfl

theorem decMathInt_encMathInt (i : Int) (h : overflows256 i = false) : decMathInt (encMathInt i) = .ok i := by
  unfold decMathInt encMathInt encStr
  simp only [Dec.bind_ok, parseBigInt0_intToDec, h, Bool.false_eq_true, ↓reduceIte]

theorem shl_or {i b : Nat} (h : b < 2 ^ i) (a : Nat) : a <<< i ||| b = a * 2 ^ i + b := by
  rw [← Nat.shiftLeft_add_eq_or_of_lt h, Nat.shiftLeft_eq]

theorem sextets_lt {x y z : Nat} (hx : x < 256) (hy : y < 256) (hz : z < 256) :
    x >>> 2 < 64 ∧ ((x &&& 3) <<< 4 ||| y >>> 4) < 64 ∧ ((y &&& 15) <<< 2 ||| z >>> 6) < 64 ∧ z &&& 63 < 64 := by
  -- the masks 3, 15, 63 (and 0xff below) are `2 ^ n - 1`
  simp only [Nat.shiftRight_eq_div_pow, Nat.and_two_pow_sub_one_eq_mod x 2, Nat.and_two_pow_sub_one_eq_mod y 4,
    Nat.and_two_pow_sub_one_eq_mod z 6]
  rw [shl_or (i := 4) (by omega), shl_or (i := 2) (by omega)]
  omega

/-- The decoder's shifts give the three bytes of a group back from its four sextets. With `shl_or` every `|||` is a sum and the
claim is linear arithmetic with division and remainder by constants. -/
theorem sextets_bytes {x y z : Nat} (hx : x < 256) (hy : y < 256) (hz : z < 256) :
    ((x >>> 2) <<< 2 ||| ((x &&& 3) <<< 4 ||| y >>> 4) >>> 4) &&& 0xff = x ∧
    (((x &&& 3) <<< 4 ||| y >>> 4) <<< 4 ||| ((y &&& 15) <<< 2 ||| z >>> 6) >>> 2) &&& 0xff = y ∧
    (((y &&& 15) <<< 2 ||| z >>> 6) <<< 6 ||| z &&& 63) &&& 0xff = z := by
  simp only [Nat.shiftRight_eq_div_pow, Nat.and_two_pow_sub_one_eq_mod x 2, Nat.and_two_pow_sub_one_eq_mod y 4,
    Nat.and_two_pow_sub_one_eq_mod z 6, Nat.and_two_pow_sub_one_eq_mod _ 8]
  simp only [shl_or (i := 4) (show y / 2 ^ 4 < 2 ^ 4 by omega), shl_or (i := 2) (show z / 2 ^ 6 < 2 ^ 2 by omega)]
  rw [shl_or (i := 2) (by omega), shl_or (i := 4) (by omega), shl_or (i := 6) (by omega)]
  omega

/-- The alphabet, by one sweep over its 64 entries: decoded value, never the padding sign, printable. -/
theorem b64Val_b64Char : ∀ n < 64,
    b64Val (b64Char n) = some n ∧ (b64Char n == 61) = false ∧ 0x20 ≤ (b64Char n).toNat ∧ (b64Char n).toNat < 0x7F := by
  decide +kernel

/-- `b64DecodeQuads` treats a last group of four on its own, but only padding makes the difference. -/
theorem b64DecodeQuads_quad (a b c d : UInt8) (rest : Bytes) (hd : (d == 61) = false) :
    b64DecodeQuads (a :: b :: c :: d :: rest) = (do
      let x ← b64Val a; let y ← b64Val b; let z ← b64Val c; let w ← b64Val d
      let r ← b64DecodeQuads rest
      pure (UInt8.ofNat (((x <<< 2) ||| (y >>> 4)) &&& 0xff) :: UInt8.ofNat (((y <<< 4) ||| (z >>> 2)) &&& 0xff)
            :: UInt8.ofNat (((z <<< 6) ||| w) &&& 0xff) :: r)) := by
  cases rest with
  | nil => simp only [b64DecodeQuads, hd, Bool.and_false, Bool.false_eq_true, ↓reduceIte, Option.bind_eq_bind, Option.bind_some, Option.pure_def]
  | cons e es => rw [b64DecodeQuads]; exact nofun

/-- A final group of one or two bytes is a group whose missing bytes are 0: `sextets_lt` and `sextets_bytes` apply with 0 in their
place, and `0 >>> k` is cleared away. -/
theorem b64DecodeQuads_encode (l : Bytes) : b64DecodeQuads (b64Encode l) = some l := by
  induction l using b64Encode.induct with
  | case1 => rfl
  | case2 a =>
    obtain ⟨h1, h2, -, -⟩ := sextets_lt a.toNat_lt (show 0 < 256 by decide) (show 0 < 256 by decide)
    obtain ⟨e1, -, -⟩ := sextets_bytes a.toNat_lt (show 0 < 256 by decide) (show 0 < 256 by decide)
    rw [Nat.zero_shiftRight, Nat.or_zero] at h2 e1
    simp only [b64Encode, b64DecodeQuads]
    simp only [beq_self_eq_true, Bool.and_self, ↓reduceIte, (b64Val_b64Char _ h1).1, (b64Val_b64Char _ h2).1,
      Option.bind_eq_bind, Option.bind_some, Option.pure_def, e1, UInt8.ofNat_toNat]
  | case3 a b =>
    obtain ⟨h1, h2, h3, -⟩ := sextets_lt a.toNat_lt b.toNat_lt (show 0 < 256 by decide)
    obtain ⟨e1, e2, -⟩ := sextets_bytes a.toNat_lt b.toNat_lt (show 0 < 256 by decide)
    rw [Nat.zero_shiftRight, Nat.or_zero] at h3 e2
    simp only [b64Encode, b64DecodeQuads]
    simp only [(b64Val_b64Char _ h3).2.1, Bool.false_and, Bool.false_eq_true, beq_self_eq_true, ↓reduceIte, (b64Val_b64Char _ h1).1,
      (b64Val_b64Char _ h2).1, (b64Val_b64Char _ h3).1, Option.bind_eq_bind, Option.bind_some, Option.pure_def, e1, e2, UInt8.ofNat_toNat]
  | case4 a b c rest ih =>
    obtain ⟨h1, h2, h3, h4⟩ := sextets_lt a.toNat_lt b.toNat_lt c.toNat_lt
    obtain ⟨e1, e2, e3⟩ := sextets_bytes a.toNat_lt b.toNat_lt c.toNat_lt
    rw [b64Encode, b64DecodeQuads_quad _ _ _ _ _ (b64Val_b64Char _ h4).2.1]
    simp only [(b64Val_b64Char _ h1).1, (b64Val_b64Char _ h2).1, (b64Val_b64Char _ h3).1, (b64Val_b64Char _ h4).1, ih,
      Option.bind_eq_bind, Option.bind_some, Option.pure_def, e1, e2, e3, UInt8.ofNat_toNat]

theorem b64Encode_printable (l : Bytes) : ∀ c ∈ b64Encode l, 0x20 ≤ c.toNat ∧ c.toNat < 0x7F := by
  have pad : 0x20 ≤ (61 : UInt8).toNat ∧ (61 : UInt8).toNat < 0x7F := by decide
  induction l using b64Encode.induct with
  | case1 => simp [b64Encode]
  | case2 a =>
    obtain ⟨h1, h2, -, -⟩ := sextets_lt a.toNat_lt (show 0 < 256 by decide) (show 0 < 256 by decide)
    rw [Nat.zero_shiftRight, Nat.or_zero] at h2
    simp only [b64Encode, List.forall_mem_cons]
    exact ⟨(b64Val_b64Char _ h1).2.2, (b64Val_b64Char _ h2).2.2, pad, pad, nofun⟩
  | case3 a b =>
    obtain ⟨h1, h2, h3, -⟩ := sextets_lt a.toNat_lt b.toNat_lt (show 0 < 256 by decide)
    rw [Nat.zero_shiftRight, Nat.or_zero] at h3
    simp only [b64Encode, List.forall_mem_cons]
    exact ⟨(b64Val_b64Char _ h1).2.2, (b64Val_b64Char _ h2).2.2, (b64Val_b64Char _ h3).2.2, pad, nofun⟩
  | case4 a b c rest ih =>
    obtain ⟨h1, h2, h3, h4⟩ := sextets_lt a.toNat_lt b.toNat_lt c.toNat_lt
    simp only [b64Encode, List.forall_mem_cons]
    exact ⟨(b64Val_b64Char _ h1).2.2, (b64Val_b64Char _ h2).2.2, (b64Val_b64Char _ h3).2.2, (b64Val_b64Char _ h4).2.2, ih⟩

theorem b64Decode_encode (l : Bytes) : b64Decode (b64Encode l) = some l := by
  unfold b64Decode
  have : (b64Encode l).filter (fun c => c != 13 && c != 10) = b64Encode l := by
    rw [List.filter_eq_self]
    intro c hc
    have h := (b64Encode_printable l c hc).1
    have h13 : c ≠ 13 := by rintro rfl; exact absurd h (by decide)
    have h10 : c ≠ 10 := by rintro rfl; exact absurd h (by decide)
    simp [h13, h10]
  rw [this, b64DecodeQuads_encode]

theorem decBytes_encB64 (b : Bytes) : decBytes (encB64 b) = .ok b := by
  unfold decBytes encB64 encStr
  simp only
  rw [strBytes_asciiString _ (fun c hc => Nat.lt_trans (b64Encode_printable b c hc).2 (by decide)), b64Decode_encode]

theorem encBytesAny_eq_top (b : Bytes) : encBytesAny b = encBytesTop true b := by
  rw [encBytesAny, encBytesTop, Bool.and_true]

theorem decBytes_encBytesTop (σ : Bool) : ∀ b : Bytes, decBytes (encBytesTop σ b) = .ok b
  | [] => by
    cases σ with
    | false => exact decBytes_encB64 []
    | true => rfl
  | x :: xs => decBytes_encB64 (x :: xs)

theorem intOfLiteral_intToDec (i lo hi : Int) (h1 : lo ≤ i) (h2 : i ≤ hi) : intOfLiteral (intToDec i) lo hi = .ok i := by
  have hr : (lo ≤ i && i ≤ hi) = true := by simp [h1, h2]
  cases i with
  | ofNat n =>
    unfold intOfLiteral intToDec
    simp only [natToDec_toList]
    split
    · rename_i ds heq; exact absurd (natDigits_head_isDigit heq) (by decide)
    · simp only [allDigits_natDigits, ↓reduceIte, decVal_natDigits, Bool.false_eq_true, hr]
  | negSucc n =>
    unfold intOfLiteral
    rw [intToDec_negSucc_toList]
    simp only [allDigits_natDigits, ↓reduceIte, decVal_natDigits, show - Int.ofNat (n + 1) = Int.negSucc n from rfl, hr]

/-- What the codec needs of an enum's table: a name is found under itself, is written without escapes and is printable; a number
is an `int32`. Evaluated once per table. -/
def EnumTableOk (names : List (Int × String)) : Prop :=
  ∀ e ∈ names, names.find? (·.2 == e.2) = some e ∧ e.2.toList.all rawChar = true ∧ strOk e.2 = true ∧ int32Fits e.1 = true

theorem protocolIds_ok : EnumTableOk Gen.protocolIds := by unfold EnumTableOk; decide +kernel
theorem actionIds_ok : EnumTableOk Gen.actionIds := by unfold EnumTableOk; decide +kernel

theorem EnumTableOk.fits {names : List (Int × String)} (hn : EnumTableOk names) {n : Int} (h : names.any (·.1 == n) = true) :
    int32Fits n = true := by
  obtain ⟨e, he, hp⟩ := List.any_eq_true.mp h
  obtain ⟨-, -, -, hfit⟩ := hn e he
  exact beq_iff_eq.mp hp ▸ hfit

theorem decEnum_encEnum (names : List (Int × String)) (hn : EnumTableOk names) (n : Int) (h : int32Fits n = true) :
    decEnum names (encEnum names n) = .ok n := by
  unfold encEnum
  cases hf : names.find? (·.1 == n) with
  | none =>
    simp only [int32Fits, Bool.and_eq_true, decide_eq_true_eq] at h
    exact intOfLiteral_intToDec n _ _ h.1 h.2
  | some e =>
    obtain ⟨hfind, hraw, -⟩ := hn e (List.mem_of_find?_eq_some hf)
    have hm : e.1 = n := by simpa using List.find?_some hf
    simp only [decEnum, encStr, hraw, Bool.not_true, Bool.false_eq_true, ↓reduceIte, hfind, hm]

theorem decValueMsg_obj {α} (dec : Json → Dec α) (d : α) {v : Json} {a : α} (h : dec v = .ok a) :
    decValueMsg dec d (.obj [("value", v)]) = .ok (some a) := by
  fields_simp [decValueMsg, asObject, h]

theorem decFeeInfo_enc (π : OneofOrder) (f : FeeInfo) (h : f.typed = true) : decFeeInfo π (encFeeInfo f) = .ok f := by
  obtain ⟨r, ft⟩ := f
  unfold decFeeInfo encFeeInfo asObject
  cases ft with
  | unset => fields_simp [decString_encStr, decOptMember, pickFeeType]
  | bps v =>
    have hv : v < 2 ^ 32 := by simpa [FeeInfo.typed] using h
    fields_simp [decString_encStr, decOptMember, decValueMsg_obj decUint32 0 (decUint32_encUint v hv), Dec.map, pickFeeType]
  | amount s => fields_simp [decString_encStr, decOptMember, decValueMsg_obj decString "" (decString_encStr s), Dec.map, pickFeeType]

theorem decRepeated_enc {α} (dec : Json → Dec α) (enc : α → Json) (l : List α) (hnn : ∀ a, (enc a).isNull = false)
    (h : ∀ a ∈ l, dec (enc a) = .ok a) : decRepeated dec (.arr (l.map enc)) = .ok (l.map some) := by
  rw [decRepeated_arr]
  exact mapM_map_pure _ enc some l fun a ha => by simp only [hnn a, Bool.false_eq_true, ↓reduceIte, h a ha]; rfl

theorem decFee_enc (π : OneofOrder) (infos : List FeeInfo) (h : (Attrs.fee infos).typed = true) :
    decFee π [("fees_info", .arr (infos.map encFeeInfo))] = .ok (.fee infos) := by
  have hm := decRepeated_enc (decFeeInfo π) encFeeInfo infos (fun _ => rfl)
    (fun a ha => decFeeInfo_enc π a (List.all_eq_true.mp h a ha))
  unfold decFee
  fields_simp [hm, Dec.toRes]
  -- left: no element of `infos.map some` is `none`, and `filterMap id` undoes `map some`
  simp

/-- In the order `decAny` compares them. -/
theorem url_ne : (hypUrl == cctpUrl) = false ∧ (internalUrl == cctpUrl) = false ∧ (internalUrl == hypUrl) = false ∧
    (feeUrl == cctpUrl) = false ∧ (feeUrl == hypUrl) = false ∧ (feeUrl == internalUrl) = false := by
  decide +kernel

theorem decCoin_enc (d : String) (a : Int) (h : overflows256 a = false) :
    decCoin (.obj [("denom", encStr d), ("amount", encMathInt a)]) = .ok (d, a) := by
  unfold decCoin asObject
  fields_simp [decString_encStr, decMathInt_encMathInt a h]

theorem decCCTP_enc (domain : Nat) (mint caller : Bytes) (h : (Attrs.cctp domain mint caller).typed = true) :
    decCCTP [("destination_domain", encUint domain), ("mint_recipient", encBytesAny mint), ("destination_caller", encBytesAny caller)] = .ok (.cctp domain mint caller) := by
  have hd : domain < 2 ^ 32 := of_decide_eq_true h
  unfold decCCTP
  fields_simp [decUint32_encUint domain hd, encBytesAny_eq_top, decBytes_encBytesTop]

theorem decHyp_enc (tok : Bytes) (domain : Nat) (rec_ hook : Bytes) (hmeta : String) (gas : Int) (fd : String) (fa : Int)
    (h : (Attrs.hyp tok domain rec_ hook hmeta gas fd fa).typed = true) :
    decHyp [("token_id", encBytesAny tok), ("destination_domain", encUint domain),
            ("recipient", encBytesAny rec_), ("custom_hook_id", encBytesAny hook), ("custom_hook_metadata", encStr hmeta),
            ("gas_limit", encMathInt gas), ("max_fee", .obj [("denom", encStr fd), ("amount", encMathInt fa)])]
      = .ok (.hyp tok domain rec_ hook hmeta gas fd fa) := by
  simp only [Attrs.typed, Bool.and_eq_true, decide_eq_true_eq, Bool.not_eq_true'] at h
  unfold decHyp
  fields_simp [decUint32_encUint domain h.1.1, encBytesAny_eq_top, decBytes_encBytesTop, decString_encStr, decMathInt_encMathInt gas h.1.2,
    decCoin_enc fd fa h.2]

theorem decInternal_enc (r : String) : decInternal [("recipient", encStr r)] = .ok (.internal r) := by
  unfold decInternal
  fields_simp [decString_encStr]

theorem decAny_encAttrs (π : OneofOrder) (a : Attrs) (h : a.typed = true) : decAny π (encAttrs a) = .ok (some a) := by
  -- `decAny` looks at the constructor of the `@type` value only: `encStr_eq` is applied to that one string;
  -- once the fields are read, what is left is the decoded value lifted from `Dec` to `Res (Option _)`: `rfl`
  cases a with
  | cctp domain mint caller =>
    rw [encAttrs, decAny, encStr_eq cctpUrl]
    fields_simp [beq_self_eq_true, decCCTP_enc domain mint caller h]
    rfl
  | hyp tok domain rec_ hook hmeta gas fd fa =>
    rw [encAttrs, decAny, encStr_eq hypUrl]
    fields_simp [beq_self_eq_true, url_ne, decHyp_enc tok domain rec_ hook hmeta gas fd fa h]
    rfl
  | internal r =>
    rw [encAttrs, decAny, encStr_eq internalUrl]
    fields_simp [beq_self_eq_true, url_ne, decInternal_enc r]
    rfl
  | fee infos =>
    rw [encAttrs, decAny, encStr_eq feeUrl]
    fields_simp [beq_self_eq_true, url_ne, decFee_enc π infos h]
    rfl

theorem decAny_encAny (π : OneofOrder) (a : Option Attrs) (h : ∀ x, a = some x → x.typed = true) : decAny π (encAny a) = .ok a := by
  cases a with
  | none => rfl
  | some x => exact decAny_encAttrs π x (h x rfl)

theorem Action.typed_attrs {a : Action} (h : a.typed = true) : int32Fits a.id = true ∧ (∀ x, a.attrs = some x → x.isAction = true ∧ x.typed = true) := by
  simp only [Action.typed, Bool.and_eq_true] at h
  exact ⟨h.1, fun x hx => by simpa [hx] using h.2⟩

theorem Forwarding.typed_attrs {f : Forwarding} (h : f.typed = true) : int32Fits f.protocolId = true ∧ (∀ x, f.attrs = some x → x.isForwarding = true ∧ x.typed = true) := by
  simp only [Forwarding.typed, Bool.and_eq_true] at h
  exact ⟨h.1, fun x hx => by simpa [hx] using h.2⟩

theorem Payload.typed_iff {p : Payload} :
    p.typed = true ↔ (∀ a ∈ p.preActions, a.typed = true) ∧ ∀ f, p.forwarding = some f → f.typed = true := by
  unfold Payload.typed
  cases p.forwarding <;> simp

theorem decAction_enc (π : OneofOrder) (a : Action) (h : a.typed = true) : decAction π (encAction a) = .ok a := by
  obtain ⟨hid, hat⟩ := Action.typed_attrs h
  unfold decAction encAction asObject
  fields_simp [Dec.toRes, decEnum_encEnum _ actionIds_ok a.id hid, decAny_encAny π a.attrs (fun x hx => (hat x hx).2)]

theorem decForwarding_enc (π : OneofOrder) (σ : Bool) (f : Forwarding) (h : f.typed = true) : decForwarding π (encForwarding σ f) = .ok f := by
  obtain ⟨hid, hat⟩ := Forwarding.typed_attrs h
  unfold decForwarding encForwarding asObject
  fields_simp [Dec.toRes, decEnum_encEnum _ protocolIds_ok f.protocolId hid, decAny_encAny π f.attrs (fun x hx => (hat x hx).2),
    decBytes_encBytesTop]

theorem decRepeatedR_enc {α} (dec : Json → Res α) (enc : α → Json) (l : List α) (hnn : ∀ a, (enc a).isNull = false)
    (h : ∀ a ∈ l, dec (enc a) = .ok a) : decRepeatedR dec (.arr (l.map enc)) = .ok (l.map some) := by
  rw [decRepeatedR_arr]
  exact mapM_map_pure _ enc some l fun a ha => by simp only [hnn a, Bool.false_eq_true, ↓reduceIte, h a ha]; rfl

/-- What the decoder returns for a payload: every action present (no nil element). -/
def Payload.toRaw (p : Payload) : RawPayload := { forwarding := p.forwarding, preActions := p.preActions.map some }

theorem decPayload_enc (π : OneofOrder) (σ : Bool) (p : Payload) (h : p.typed = true) : decPayload π (encPayload σ p) = .ok p.toRaw := by
  obtain ⟨hat, hft⟩ := Payload.typed_iff.mp h
  have hacts := decRepeatedR_enc (decAction π) encAction p.preActions (fun _ => rfl) (fun a ha => decAction_enc π a (hat a ha))
  rw [decPayload_eq]
  unfold encPayload asObject
  cases hf : p.forwarding with
  | none => fields_simp [Dec.toRes, hacts, Json.isNull, Payload.toRaw, hf]
  | some f =>
    fields_simp [Dec.toRes, hacts, show (encForwarding σ f).isNull = false from rfl, decForwarding_enc π σ f (hft f hf), Res.map,
      Payload.toRaw, hf]

theorem unpack_toRaw (p : Payload) (h : p.typed = true) : unpackInterfaces p.toRaw = .ok p.toRaw := by
  obtain ⟨hacts, hft⟩ := Payload.typed_iff.mp h
  refine unpackInterfaces_ok.mpr ⟨fun o ho => checkActionFamily_ok.mpr ?_, checkForwardingFamily_ok.mpr ?_, rfl⟩
  · obtain ⟨a, ha, rfl⟩ := List.mem_map.mp ho
    rintro _ ⟨⟩ at_ hat
    exact ((Action.typed_attrs (hacts a ha)).2 at_ hat).1
  · intro f hf at_ hat
    exact ((Forwarding.typed_attrs (hft f hf)).2 at_ hat).1

theorem takeWhile_of_all {α} {p : α → Bool} {l : List α} (h : l.all p = true) : l.takeWhile p = l := by
  simpa using List.takeWhile_append_of_pos (l₂ := []) (List.all_eq_true.mp h)

theorem dropWhile_of_all {α} {p : α → Bool} {l : List α} (h : l.all p = true) : l.dropWhile p = [] := by
  simpa using List.dropWhile_append_of_pos (l₂ := []) (List.all_eq_true.mp h)

theorem stripMinus_of_head {ds : List Char} (h : ds.head? ≠ some '-') : stripMinus ds = ds := by
  unfold stripMinus
  split
  · rename_i r; simp at h
  · rfl

theorem numOverflowsAbs_digits_eq_false (ds : List Char) (hall : ds.all isDigit = true) (hlen : (natDigits (decVal ds)).length < 300) :
    numOverflowsAbs ds = false := by
  unfold numOverflowsAbs
  simp only [takeWhile_of_all hall, dropWhile_of_all hall, fracOf, expoOf, List.append_nil, List.length_nil]
  by_cases hz : decVal ds = 0
  · simp [hz]
  · -- no fraction, no exponent: the magnitude is the number of digits. By `rw`: `simp` would visit `2 ^ 1024` in the last branch
    rw [if_neg (by simpa using hz), if_neg (by simp only [Int.ofNat_eq_natCast]; omega), if_pos (by simp only [Int.ofNat_eq_natCast]; omega)]

/-- A `uint32` or `int32` written in decimal has at most ten digits: far below the float64 range. -/
theorem numOverflowsFloat64_natDigits_eq_false {n : Nat} (h : n < 2 ^ 32) {raw : String}
    (hraw : raw.toList = natDigits n ∨ raw.toList = '-' :: natDigits n) : numOverflowsFloat64 raw = false := by
  have habs : numOverflowsAbs (natDigits n) = false :=
    numOverflowsAbs_digits_eq_false _ (natDigits_all n) (by rw [decVal_natDigits]; exact Nat.lt_of_le_of_lt (natDigits_length_le n 10 (by omega) (by omega)) (by decide))
  unfold numOverflowsFloat64
  rcases hraw with e | e
  · rw [e, stripMinus_of_head (natDigits_head_ne_minus n)]; exact habs
  · rw [e]; exact habs

theorem numOverflowsFloat64_natToDec_eq_false (n : Nat) (h : n < 2 ^ 32) : numOverflowsFloat64 (natToDec n) = false :=
  numOverflowsFloat64_natDigits_eq_false h (.inl (natToDec_toList n))

theorem numOverflowsFloat64_intToDec_eq_false (i : Int) (h : int32Fits i = true) : numOverflowsFloat64 (intToDec i) = false := by
  simp only [int32Fits, Bool.and_eq_true, decide_eq_true_eq] at h
  cases i with
  | ofNat n => exact numOverflowsFloat64_natToDec_eq_false n (by have := h.2; simp only [Int.ofNat_eq_natCast] at this; omega)
  | negSucc n => exact numOverflowsFloat64_natDigits_eq_false (n := n + 1) (by have := h.1; omega) (.inr (intToDec_negSucc_toList n))

/-- What `parsePayload` checks on the whole tree before it decodes it: every number within float64, no `null` directly inside
an array, no object with both members of the oneof. -/
def Json.preOk (j : Json) : Prop :=
  j.anyNum numOverflowsFloat64 = false ∧ j.nullInArray = false ∧ j.ambiguous = false

theorem Json.preOk_obj {fs : Fields} : (Json.obj fs).preOk ↔ fieldsAmbiguous fs = false ∧ ∀ kv ∈ fs, kv.2.preOk := by
  simp only [Json.preOk, Json.anyNum_obj, Json.nullInArray_obj, Json.ambiguous_obj, imp_and, forall_and]
  exact ⟨fun ⟨n, a, h, o⟩ => ⟨h, n, a, o⟩, fun ⟨h, n, a, o⟩ => ⟨n, a, h, o⟩⟩

theorem Json.preOk_arr {l : List Json} : (Json.arr l).preOk ↔ l.any Json.isNull = false ∧ ∀ x ∈ l, x.preOk := by
  simp only [Json.preOk, Json.anyNum_arr, Json.nullInArray_arr, Json.ambiguous_arr, imp_and, forall_and]
  exact ⟨fun ⟨n, ⟨h, a⟩, o⟩ => ⟨h, n, a, o⟩, fun ⟨h, n, a, o⟩ => ⟨n, ⟨h, a⟩, o⟩⟩

theorem Json.preOk_num {raw : String} : (Json.num raw).preOk ↔ numOverflowsFloat64 raw = false :=
  ⟨fun h => h.1, fun h => ⟨h, rfl, rfl⟩⟩

theorem Json.preOk_null : Json.null.preOk := ⟨rfl, rfl, rfl⟩

theorem encStr_preOk (s : String) : (encStr s).preOk := ⟨rfl, rfl, rfl⟩

theorem preOk_arr_map {α} (enc : α → Json) (l : List α) (hnn : ∀ a, (enc a).isNull = false) (h : ∀ a ∈ l, (enc a).preOk) :
    (Json.arr (l.map enc)).preOk := by
  simpa [Json.preOk_arr, hnn] using h

theorem encBytesTop_preOk (σ : Bool) (b : Bytes) : (encBytesTop σ b).preOk := by
  unfold encBytesTop; split <;> exact ⟨rfl, rfl, rfl⟩

theorem encUint_preOk {n : Nat} (h : n < 2 ^ 32) : (encUint n).preOk := Json.preOk_num.mpr (numOverflowsFloat64_natToDec_eq_false n h)

theorem encEnum_preOk (names : List (Int × String)) {n : Int} (h : int32Fits n = true) : (encEnum names n).preOk := by
  unfold encEnum; split
  · exact encStr_preOk _
  · exact Json.preOk_num.mpr (numOverflowsFloat64_intToDec_eq_false n h)

section
/- On a tree of object literals the three checks are computed through `preOk_obj`; what is left are the leaves and the ranges of
the numbers (`h`). -/
attribute [local simp] Json.preOk_obj fieldsAmbiguous Json.hasKey Json.preOk_null encStr_preOk encBytesAny_eq_top encBytesTop_preOk encMathInt

theorem encFeeInfo_preOk (f : FeeInfo) (h : f.typed = true) : (encFeeInfo f).preOk := by
  obtain ⟨r, ft⟩ := f
  cases ft with
  | bps v => simp [encFeeInfo, encUint_preOk (show v < 2 ^ 32 by simpa [FeeInfo.typed] using h)]
  | _ => simp [encFeeInfo]

theorem encAttrs_preOk (a : Attrs) (ht : a.typed = true) : (encAttrs a).preOk := by
  cases a with
  | cctp d m c => simp [encAttrs, encUint_preOk (show d < 2 ^ 32 by simpa [Attrs.typed] using ht)]
  | hyp t d r hk hm g fd fa =>
    simp only [Attrs.typed, Bool.and_eq_true, decide_eq_true_eq, Bool.not_eq_true'] at ht
    simp [encAttrs, encUint_preOk ht.1.1]
  | internal r => simp [encAttrs]
  | fee infos =>
    have hi : ∀ f ∈ infos, f.typed = true := List.all_eq_true.mp (by simpa [Attrs.typed] using ht)
    simp [encAttrs, preOk_arr_map encFeeInfo infos (fun _ => rfl) (fun f hf => encFeeInfo_preOk f (hi f hf))]

theorem encAny_preOk (a : Option Attrs) (h : ∀ x, a = some x → x.typed = true) : (encAny a).preOk := by
  cases a with
  | none => exact Json.preOk_null
  | some x => exact encAttrs_preOk x (h x rfl)

theorem encAction_preOk (a : Action) (h : a.typed = true) : (encAction a).preOk := by
  obtain ⟨hid, hat⟩ := Action.typed_attrs h
  simp [encAction, encEnum_preOk _ hid, encAny_preOk a.attrs (fun x hx => (hat x hx).2)]

theorem encForwarding_preOk (σ : Bool) (f : Forwarding) (h : f.typed = true) : (encForwarding σ f).preOk := by
  obtain ⟨hid, hat⟩ := Forwarding.typed_attrs h
  simp [encForwarding, encEnum_preOk _ hid, encAny_preOk f.attrs (fun x hx => (hat x hx).2)]

theorem encWrapper_preOk (σ : Bool) (p : Payload) (h : p.typed = true) : (encWrapper σ p).preOk := by
  obtain ⟨hat, hft⟩ := Payload.typed_iff.mp h
  obtain ⟨fw, acts⟩ := p
  have hl := preOk_arr_map encAction acts (fun _ => rfl) (fun a ha => encAction_preOk a (hat a ha))
  have hk : Gen.orbiterPrefix = "orbiter" := rfl
  cases fw with
  | none => simp [encWrapper, encPayload, hk, hl]
  | some f => simp [encWrapper, encPayload, hk, hl, encForwarding_preOk σ f (hft f rfl)]
end

end Orbiter
