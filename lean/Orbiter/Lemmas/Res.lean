/-
  The result monads `Res` and `Dec` beyond the equations of `Prims.lean`: what it means that a guard, a sequence, a fold or a
  `mapErr` returned `ok` (the inversion lemmas every `f_ok` is proved with), congruence of `bind` and of `List.mapM`, and `map`
  pushed through `bind`.
-/
import Orbiter.Prims
namespace Orbiter

/-- A statement of a `do` block that returns nothing, followed by the rest. -/
theorem Res.seq_eq_ok {β} {r : Res Unit} {k : Unit → Res β} {b : β} : (r >>= k) = .ok b ↔ r = .ok () ∧ k () = .ok b := by
  rw [Res.bind_eq_ok]
  exact ⟨fun ⟨(), h⟩ => h, fun h => ⟨(), h⟩⟩

theorem Res.allM_eq_ok {α} {f : α → Res Unit} {l : List α} : Res.allM f l = .ok () ↔ ∀ a ∈ l, f a = .ok () := by
  induction l with
  | nil => simp [Res.allM]
  | cons x xs ih => simp only [Res.allM, Res.seq_eq_ok, ih, List.mem_cons, forall_eq_or_imp]

/-- An `if c then .err e else r` that succeeded: rewriting with this lemma turns a validator (a nest of such guards) that
returned `ok` into the conjunction of its negated conditions in one pass. (A guard statement of a `do` block is compiled to
`if c then .err e >>= k else k ()`: it has this form after `Res.bind_err`.) -/
theorem Res.ite_err_eq_ok {α} {c : Prop} [Decidable c] {e : String} {r : Res α} {a : α} :
    (if c then (Res.err e : Res α) else r) = .ok a ↔ ¬ c ∧ r = .ok a := by
  by_cases h : c <;> simp [h]

theorem Res.ite_panic_eq_ok {α} {c : Prop} [Decidable c] {e : String} {r : Res α} {a : α} :
    (if c then (Res.panic e : Res α) else r) = .ok a ↔ ¬ c ∧ r = .ok a := by
  by_cases h : c <;> simp [h]

/-- Two guards before a result (the six setters have this shape): when the second fires the result is an error, whatever the first
says. -/
theorem err_of_second_guard {α} {c1 c2 : Prop} [Decidable c1] [Decidable c2] {e1 e2 : String} {r : Res α} (h : c2) :
    ∃ e, (if c1 then (.err e1 : Res α) else if c2 then .err e2 else r) = .err e := by
  by_cases h1 : c1
  · exact ⟨e1, if_pos h1⟩
  · exact ⟨e2, by rw [if_neg h1, if_pos h]⟩

theorem guard_ok {b : Bool} {e : String} {u : Unit} (h : (if b = true then (Res.err e : Res Unit) else pure ()) = .ok u) : b = false := by
  cases b with
  | true => simp at h
  | false => rfl

theorem Res.mapErr_eq_ok {α} {r : Res α} {f : String → String} {a : α} : r.mapErr f = .ok a ↔ r = .ok a := by
  cases r <;> simp [Res.mapErr]

theorem Dec.toRes_eq_ok {α} {d : Dec α} {a : α} : d.toRes = .ok a ↔ d = .ok a := by
  cases d <;> simp [Dec.toRes]

theorem Res.foldlM_inv {α β} {f : β → α → Res β} {l : List α} (P : β → Prop)
    (hf : ∀ a ∈ l, ∀ b b', P b → f b a = .ok b' → P b') {b b' : β} (hb : P b)
    (h : l.foldlM f b = .ok b') : P b' := by
  induction l generalizing b with
  | nil => simp only [List.foldlM_nil, Res.pure_eq, Res.ok.injEq] at h; exact h ▸ hb
  | cons a rest ih =>
    rw [List.foldlM_cons] at h
    obtain ⟨b1, hs, h⟩ := Res.bind_eq_ok.mp h
    exact ih (fun x hx => hf x (List.mem_cons_of_mem _ hx)) (hf a List.mem_cons_self b b1 hb hs) h

theorem Res.foldlM_ok_of_forall {α β} {f : β → α → Res β} {l : List α} (h : ∀ a ∈ l, ∀ b, ∃ b', f b a = .ok b') (b : β) :
    ∃ b', l.foldlM f b = .ok b' := by
  induction l generalizing b with
  | nil => exact ⟨b, rfl⟩
  | cons a rest ih =>
    obtain ⟨b1, h1⟩ := h a List.mem_cons_self b
    rw [List.foldlM_cons, h1, Res.bind_ok]
    exact ih (fun x hx => h x (List.mem_cons_of_mem _ hx)) b1

theorem Dec.bind_congr {α β} {x : Dec α} {f g : α → Dec β} (h : ∀ a, x = .ok a → f a = g a) : (x >>= f) = (x >>= g) := by
  cases x with
  | ok a => exact h a rfl
  | err e => rfl

theorem Res.bind_congr {α β} {x : Res α} {f g : α → Res β} (h : ∀ a, x = .ok a → f a = g a) : (x >>= f) = (x >>= g) := by
  cases x with
  | ok a => exact h a rfl
  | _ => rfl

theorem Res.bind_congr₂ {α β} {x y : Res α} {f g : α → Res β} (hx : x = y) (hf : ∀ a, y = .ok a → f a = g a) : (x >>= f) = (y >>= g) := by
  subst hx
  exact Res.bind_congr hf

theorem mapM_congr {m : Type → Type} [Monad m] [LawfulMonad m] {α β} {f g : α → m β} {l : List α} (h : ∀ x ∈ l, f x = g x) :
    l.mapM f = l.mapM g := by
  induction l with
  | nil => rfl
  | cons x xs ih =>
    rw [List.mapM_cons, List.mapM_cons, h x List.mem_cons_self, ih (fun y hy => h y (List.mem_cons_of_mem _ hy))]

theorem mapM_map_pure {m : Type → Type} [Monad m] [LawfulMonad m] {α β γ} (f : β → m γ) (g : α → β) (r : α → γ) (l : List α)
    (h : ∀ a ∈ l, f (g a) = pure (r a)) : (l.map g).mapM f = pure (l.map r) := by
  rw [List.mapM_map, mapM_congr (f := f ∘ g) h, List.mapM_pure]

theorem mapM_map_of_forall {α β γ} {f : α → Option β} {k : β → γ} {g : α → γ} {l : List α}
    (h : ∀ a ∈ l, ∃ b, f a = some b ∧ k b = g a) : ∃ l', l.mapM f = some l' ∧ l'.map k = l.map g := by
  induction l with
  | nil => exact ⟨[], rfl, rfl⟩
  | cons a rest ih =>
    obtain ⟨b, hb, hk⟩ := h a List.mem_cons_self
    obtain ⟨l', hl, hm⟩ := ih fun x hx => h x (List.mem_cons_of_mem _ hx)
    exact ⟨b :: l', by rw [List.mapM_cons, hb, hl]; rfl, by rw [List.map_cons, List.map_cons, hk, hm]⟩

theorem Res.map_bind' {α β γ} (x : Res α) (g : α → β) (k : β → Res γ) : (x.map g >>= k) = (x >>= fun a => k (g a)) := by
  cases x <;> rfl

theorem Res.bind_map' {α β γ} (x : Res α) (k : α → Res β) (g : β → γ) : (x >>= k).map g = (x >>= fun a => (k a).map g) := by
  cases x <;> rfl

theorem Res.map_ok' {α β} (a : α) (g : α → β) : (Res.ok a).map g = .ok (g a) := rfl
theorem Res.map_err' {α β} (e : String) (g : α → β) : (Res.err e : Res α).map g = .err e := rfl
theorem Res.map_panic' {α β} (e : String) (g : α → β) : (Res.panic e : Res α).map g = .panic e := rfl
theorem Res.map_pure' {α β} (a : α) (g : α → β) : (Pure.pure a : Res α).map g = .ok (g a) := rfl

theorem Res.map_ite' {α β} (c : Prop) [Decidable c] (a b : Res α) (g : α → β) : (if c then a else b).map g = if c then a.map g else b.map g := by
  split <;> rfl

end Orbiter
