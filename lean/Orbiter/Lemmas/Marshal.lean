/-
  The tree the marshaller builds is one the syntax layer reads back: printable (`Json.printable`) when the payload's free text is,
  and at most 8 deep, one lemma per encoder up to `encWrapper_printable_height`; so the marshalled memo parses to the marshalled
  tree (`parse_marshalled`).
-/
import Orbiter.Lemmas.Encode
import Orbiter.Lemmas.JsonText
namespace Orbiter

theorem natToDec_numOkB (n : Nat) : numOkB (natToDec n) = true := by
  rw [numOkB, natToDec_toList, stripMinus_of_head (natDigits_head_ne_minus n)]
  exact natDigits_canonical n

theorem intToDec_numOkB (i : Int) : numOkB (intToDec i) = true := by
  cases i with
  | ofNat n => exact natToDec_numOkB n
  | negSucc n =>
    rw [numOkB, intToDec_negSucc_toList]
    exact natDigits_canonical _

theorem intToDec_strOk (i : Int) : strOk (intToDec i) = true := numOkB_strOk (intToDec_numOkB i)

theorem encB64_printable (b : Bytes) : (encB64 b).printable = true := by
  refine encStr_printable _ ?_
  rw [strOk_eq_bytes, strBytes_asciiString _ fun c hc => by have := b64Encode_printable b c hc; omega]
  simpa using b64Encode_printable b

theorem encBytesTop_printable_height (σ : Bool) (b : Bytes) : (encBytesTop σ b).printable = true ∧ (encBytesTop σ b).height = 0 := by
  unfold encBytesTop; split
  · exact ⟨rfl, rfl⟩
  · exact ⟨encB64_printable b, rfl⟩

theorem encMathInt_printable (i : Int) : (encMathInt i).printable = true := encStr_printable _ (intToDec_strOk i)

theorem encEnum_printable_height (names : List (Int × String)) (hn : EnumTableOk names) (n : Int) :
    (encEnum names n).printable = true ∧ (encEnum names n).height = 0 := by
  unfold encEnum
  cases hf : names.find? (·.1 == n) with
  | none => exact ⟨intToDec_numOkB n, rfl⟩
  | some e =>
    obtain ⟨-, -, hs, -⟩ := hn e (List.mem_of_find?_eq_some hf)
    exact ⟨encStr_printable e.2 hs, rfl⟩

/-- Every key and type URL the marshaller writes is printable ASCII: the table of these literals, evaluated once. -/
theorem keys_strOk :
    strOk "recipient" = true ∧ strOk "basis_points" = true ∧ strOk "amount" = true ∧ strOk "value" = true ∧ strOk "@type" = true ∧
    strOk "destination_domain" = true ∧ strOk "mint_recipient" = true ∧ strOk "destination_caller" = true ∧ strOk "token_id" = true ∧
    strOk "custom_hook_id" = true ∧ strOk "custom_hook_metadata" = true ∧ strOk "gas_limit" = true ∧ strOk "max_fee" = true ∧
    strOk "denom" = true ∧ strOk "fees_info" = true ∧ strOk "id" = true ∧ strOk "attributes" = true ∧ strOk "protocol_id" = true ∧
    strOk "passthrough_payload" = true ∧ strOk "pre_actions" = true ∧ strOk "forwarding" = true ∧ strOk Gen.orbiterPrefix = true ∧
    strOk cctpUrl = true ∧ strOk hypUrl = true ∧ strOk internalUrl = true ∧ strOk feeUrl = true := by
  simp only [strOk_eq_bytes]; decide +kernel

section
/- On a tree of object literals `printable` is computed through its equations and `height` by unfolding; what is left are the leaves
that are not literals, the keys (`keys_strOk`) and the free text (`h`). Of the height `simp` leaves `1 + …` for each level of the
literal over the heights of the encoded members, which the lemmas before bound: `omega`. -/
attribute [local simp] Json.printable_null Json.printable_obj Json.printable_str Json.printable_num Json.printable_arr printableFields_eq_all keysDistinct
  Json.height heightFields encStr encUint encMathInt
  natToDec_numOkB intToDec_strOk encBytesAny_eq_top encBytesTop_printable_height keys_strOk

theorem encFeeInfo_printable_height (f : FeeInfo) (h : f.textOk = true) : (encFeeInfo f).printable = true ∧ (encFeeInfo f).height ≤ 2 := by
  obtain ⟨r, ft⟩ := f
  simp only [FeeInfo.textOk, Bool.and_eq_true] at h
  cases ft with
  | amount s => simp [encFeeInfo, h.1, show strOk s = true by simpa using h.2]
  | _ => simp [encFeeInfo, h.1]

theorem encAttrs_printable_height (a : Attrs) (h : a.textOk = true) : (encAttrs a).printable = true ∧ (encAttrs a).height ≤ 4 := by
  cases a with
  | cctp d m c => simp [encAttrs]
  | hyp t d r hk hm g fd fa =>
    simp only [Attrs.textOk, Bool.and_eq_true] at h
    simp [encAttrs, h]
  | internal r => simp [encAttrs, show strOk r = true by simpa [Attrs.textOk] using h]
  | fee infos =>
    have hi : ∀ f ∈ infos, f.textOk = true := List.all_eq_true.mp (by simpa [Attrs.textOk] using h)
    have p1 := printableList_map encFeeInfo infos (fun f hf => (encFeeInfo_printable_height f (hi f hf)).1)
    have p2 := heightList_map encFeeInfo infos 2 (fun f hf => (encFeeInfo_printable_height f (hi f hf)).2)
    simp [encAttrs, p1]
    omega

theorem encAny_printable_height (a : Option Attrs) (h : ∀ x, a = some x → x.textOk = true) : (encAny a).printable = true ∧ (encAny a).height ≤ 4 := by
  cases a with
  | none => simp [encAny]
  | some x => exact encAttrs_printable_height x (h x rfl)

theorem encAction_printable_height (a : Action) (h : ∀ x, a.attrs = some x → x.textOk = true) : (encAction a).printable = true ∧ (encAction a).height ≤ 5 := by
  obtain ⟨p1, p2⟩ := encAny_printable_height a.attrs h
  simp [encAction, p1, encEnum_printable_height _ actionIds_ok]
  omega

theorem encForwarding_printable_height (σ : Bool) (f : Forwarding) (h : ∀ x, f.attrs = some x → x.textOk = true) :
    (encForwarding σ f).printable = true ∧ (encForwarding σ f).height ≤ 5 := by
  obtain ⟨p1, p2⟩ := encAny_printable_height f.attrs h
  simp [encForwarding, p1, encEnum_printable_height _ protocolIds_ok]
  omega

theorem encWrapper_printable_height (σ : Bool) (p : Payload) (h : p.textOk = true) :
    (encWrapper σ p).printable = true ∧ (encWrapper σ p).height ≤ 8 := by
  obtain ⟨fw, acts⟩ := p
  simp only [Payload.textOk, Bool.and_eq_true, List.all_eq_true] at h
  have ha : ∀ a ∈ acts, (encAction a).printable = true ∧ (encAction a).height ≤ 5 :=
    fun a hm => encAction_printable_height a fun x hx => by simpa [hx] using h.1 a hm
  have p1 := printableList_map encAction acts (fun a hm => (ha a hm).1)
  have p2 := heightList_map encAction acts 5 (fun a hm => (ha a hm).2)
  cases fw with
  | none =>
    simp [encWrapper, encPayload, p1]
    omega
  | some f =>
    obtain ⟨q1, q2⟩ := encForwarding_printable_height σ f fun x hx => by simpa [hx] using h.2
    simp [encWrapper, encPayload, p1, q1]
    omega
end

theorem parse_marshalled (σ : Bool) (p : Payload) (h : p.textOk = true) : parseJsonWhole (marshalPayload σ p) = some (encWrapper σ p) := by
  obtain ⟨h1, h2⟩ := encWrapper_printable_height σ p h
  exact parseJsonWhole_render _ h1 (by unfold maxDepth; omega)

end Orbiter
