/-
  UTF-8 as far as the model needs it: the bytes of a string are the encodings of its characters (`strBytes_eq`), they determine the
  string (`strBytes_inj`), only the character 0 gives a byte 0 (`utf8EncodeChar_ne_zero`), and a character below 128 is the one
  byte `byteOf c` (`utf8EncodeChar_of_ascii`, `strBytes_ascii`, by the list lemma `flatMap_eq_map`: a `flatMap` of singletons is a
  `map`); the first byte of a longer encoding is not below 128 (`utf8EncodeChar_head`).
-/
import Orbiter.Prims
namespace Orbiter

theorem strBytes_eq (s : String) : strBytes s = s.toList.flatMap String.utf8EncodeChar := by
  unfold strBytes String.toUTF8
  rw [← String.utf8Encode_toList]
  unfold List.utf8Encode
  rw [List.toList_data_toByteArray]

theorem strBytes_append (a b : String) : strBytes (a ++ b) = strBytes a ++ strBytes b := by
  simp only [strBytes_eq, String.toList_append, List.flatMap_append]

theorem strBytes_inj {a b : String} (h : strBytes a = strBytes b) : a = b :=
  String.toByteArray_inj.mp (ByteArray.ext (Array.toList_inj.mp h))

theorem utf8Size_of_ascii {c : Char} (h : c.toNat < 128) : c.utf8Size = 1 := by
  rw [Char.utf8Size_eq_one_iff, UInt32.le_iff_toNat_le]
  exact Nat.le_of_lt_succ h

/-- The byte that encodes an ASCII character. -/
def byteOf (c : Char) : UInt8 := UInt8.ofNat c.toNat

theorem byteOf_toNat {c : Char} (h : c.toNat < 256) : (byteOf c).toNat = c.toNat := UInt8.toNat_ofNat_of_lt' h

theorem byteOf_ne {c : Char} {b : UInt8} (h : c.toNat < 256) (hne : c.toNat ≠ b.toNat) : byteOf c ≠ b := by
  rintro rfl
  exact hne (byteOf_toNat h).symm

theorem ofNat_toNat_byteOf (c : Char) (h : c.toNat < 128) : Char.ofNat (byteOf c).toNat = c := by
  rw [byteOf_toNat (by omega), Char.ofNat_toNat]

theorem utf8EncodeChar_of_ascii {c : Char} (h : c.toNat < 128) : String.utf8EncodeChar c = [byteOf c] :=
  String.utf8EncodeChar_eq_singleton (utf8Size_of_ascii h)

theorem utf8EncodeChar_ofNat (b : UInt8) (h : b.toNat < 128) : String.utf8EncodeChar (Char.ofNat b.toNat) = [b] := by
  have hv : (Char.ofNat b.toNat).toNat = b.toNat := by
    have : b.toNat.isValidChar := by left; omega
    simp [Char.ofNat, this, Char.ofNatAux, Char.toNat]
  rw [utf8EncodeChar_of_ascii (by omega), byteOf, hv, UInt8.ofNat_toNat]

theorem flatMap_eq_map {α β} {f : α → List β} {g : α → β} {l : List α} (h : ∀ x ∈ l, f x = [g x]) : l.flatMap f = l.map g := by
  -- `flatMap` is `map` followed by `flatten`
  rw [List.map_eq_flatMap, List.flatMap_def, List.flatMap_def, List.map_congr_left h]

theorem strBytes_ascii {s : String} (h : ∀ c ∈ s.toList, c.toNat < 128) : strBytes s = s.toList.map byteOf := by
  rw [strBytes_eq, flatMap_eq_map fun c hc => utf8EncodeChar_of_ascii (h c hc)]

theorem utf8EncodeChar_head (c : Char) : ∃ b rest, String.utf8EncodeChar c = b :: rest ∧ (b.toNat < 0x80 → b.toNat = c.toNat) := by
  -- the first byte of a longer encoding is `x % m + k` with `0xC0 ≤ k`
  have lead : ∀ x m k : Nat, 0 < m → 0xC0 ≤ k → m + k ≤ 256 → ¬ (UInt8.ofNat (x % m + k)).toNat < 0x80 := by
    intro x m k hm hk hmk
    have := Nat.mod_lt x hm
    rw [UInt8.toNat_ofNat_of_lt' (show _ < 256 by omega)]; omega
  unfold String.utf8EncodeChar
  simp only [show c.val.toNat = c.toNat from rfl]
  by_cases h1 : c.toNat ≤ 0x7f
  · exact ⟨_, _, if_pos h1, fun _ => byteOf_toNat (by omega)⟩
  · rw [if_neg h1]
    split
    · exact ⟨_, _, rfl, fun h => absurd h (lead _ _ _ (by decide) (by decide) (by decide))⟩
    · split <;> exact ⟨_, _, rfl, fun h => absurd h (lead _ _ _ (by decide) (by decide) (by decide))⟩

theorem utf8EncodeChar_ne_zero (c : Char) (hc : c ≠ Char.ofNat 0) : ∀ b ∈ String.utf8EncodeChar c, b ≠ 0 := by
  -- a continuation or multi-byte leading byte is `_ ||| k` with `k ≠ 0`; a single byte is the character itself
  have or_ne : ∀ a k : UInt8, k ≠ 0 → a ||| k ≠ 0 := fun a k hk h => hk (UInt8.or_eq_zero_iff.mp h).2
  intro b hb
  rcases c.utf8Size_eq with h | h | h | h
  · rw [String.utf8EncodeChar_eq_singleton h, List.mem_singleton] at hb
    subst hb
    intro h0
    have hle := UInt32.le_iff_toNat_le.mp (Char.utf8Size_eq_one_iff.mp h)
    have h0' := congrArg UInt8.toNat h0
    simp only [UInt32.toNat_toUInt8, UInt8.toNat_zero, UInt32.reduceToNat] at h0' hle
    exact hc (Char.ext (UInt32.toNat_inj.mp (by change c.val.toNat = 0; omega)))
  · rw [String.utf8EncodeChar_eq_cons_cons h] at hb
    simp only [List.mem_cons, List.not_mem_nil, or_false] at hb
    rcases hb with rfl | rfl <;> exact or_ne _ _ (by decide)
  · rw [String.utf8EncodeChar_eq_cons_cons_cons h] at hb
    simp only [List.mem_cons, List.not_mem_nil, or_false] at hb
    rcases hb with rfl | rfl | rfl <;> exact or_ne _ _ (by decide)
  · rw [String.utf8EncodeChar_eq_cons_cons_cons_cons h] at hb
    simp only [List.mem_cons, List.not_mem_nil, or_false] at hb
    rcases hb with rfl | rfl | rfl | rfl <;> exact or_ne _ _ (by decide)

end Orbiter
