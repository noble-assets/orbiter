/-
  Apart from the genesis round trip the module's store changes by writes of nine kinds: seven by admin messages
  (`msgStep_preserves`), and upserts of valid entries into the two statistics maps (`updateStats_preserves`). A predicate that
  implies `OrbState.Inv` and is kept by these (`OrbState.Kept`, which asks for the upsert of *any* valid entry: enough for `Inv`,
  `Good` and facts about the admin fields, not for facts about what the statistics hold) and by the round trip is kept by every
  operation and every history.
-/
import Orbiter.Lemmas.Inv
import Orbiter.Lemmas.Recv
namespace Orbiter

theorem ibcRecv_preserves {Q : OrbState → Prop} (hQ : ∀ o, Q o → o.Inv) (hk : OrbState.Kept Q)
    (wr : Wiring) (φ : Faults) (w : World) (pkt : Packet) (hq : Q w.orb) : Q (ibcRecv wr φ w pkt).orb := by
  rcases ibcRecv_orb_cases wr φ w pkt with h | ⟨t, f, ht, h⟩ <;> rw [h]
  · exact hq
  · exact updateStats_preserves hQ hk w.orb t f hq ht

theorem OrbState.Inv.kept : OrbState.Kept OrbState.Inv where
  pauseProtocol hi hv hn := { hi with
    pp_nodup := nodup_insertBy intLt hn hi.pp_nodup
    pp_valid := forall_mem_insertBy intLt hv hi.pp_valid }
  unpauseProtocol hi _ := { hi with
    pp_nodup := hi.pp_nodup.erase _
    pp_valid := fun q hq => hi.pp_valid q (List.mem_of_mem_erase hq) }
  pauseCrossChain hi hv hn := { hi with
    pc_nodup := nodup_insertBy ccLt hn hi.pc_nodup
    pc_valid := forall_mem_insertBy ccLt hv hi.pc_valid }
  unpauseCrossChain hi _ := { hi with
    pc_nodup := hi.pc_nodup.erase _
    pc_valid := fun q hq => hi.pc_valid q (List.mem_of_mem_erase hq) }
  pauseAction hi hv hn := { hi with
    pa_nodup := nodup_insertBy intLt hn hi.pa_nodup
    pa_valid := forall_mem_insertBy intLt hv hi.pa_valid }
  unpauseAction hi _ := { hi with
    pa_nodup := hi.pa_nodup.erase _
    pa_valid := fun q hq => hi.pa_valid q (List.mem_of_mem_erase hq) }
  params hi := { hi with }
  amount hi hv := hi.upsert_amount hv
  count hi hv := hi.upsert_count hv

theorem step_preserves {Q : OrbState → Prop} (hQ : ∀ o, Q o → o.Inv) (hk : OrbState.Kept Q) (hr : ∀ o, Q o → Q (reimportStep o).2)
    (wr : Wiring) (φ : Faults) (w : World) (op : Op) (hq : Q w.orb) : Q (step wr φ w op).2.orb := by
  cases op with
  | recv pkt => exact ibcRecv_preserves hQ hk wr φ w pkt hq
  | deposit a d n => exact hq
  | env e => exact hq
  | reimport => exact hr w.orb hq
  | msg m =>
    rcases step_msg_cases wr φ w m with ⟨_, h⟩ | ⟨o', evs, rq, hm, h⟩ <;> rw [h]
    · exact hq
    · exact msgStep_preserves hk.toMsgKept hq hm

theorem run_preserves {Q : OrbState → Prop} (hQ : ∀ o, Q o → o.Inv) (hk : OrbState.Kept Q) (hr : ∀ o, Q o → Q (reimportStep o).2)
    (wr : Wiring) (w : World) (ops : List Op) (hq : Q w.orb) : Q (run wr w ops).orb := by
  induction ops generalizing w with
  | nil => exact hq
  | cons op rest ih =>
    rw [run_cons]
    exact ih _ (step_preserves hQ hk hr wr noFaults w op hq)

theorem step_inv (wr : Wiring) (φ : Faults) (w : World) (op : Op) (hi : w.orb.Inv) : (step wr φ w op).2.orb.Inv :=
  step_preserves (fun _ h => h) OrbState.Inv.kept reimportStep_inv wr φ w op hi

theorem run_inv (wr : Wiring) (w : World) (ops : List Op) (hi : w.orb.Inv) : (run wr w ops).orb.Inv :=
  run_preserves (fun _ h => h) OrbState.Inv.kept reimportStep_inv wr w ops hi

end Orbiter
