/-
  Perturbing the ledger where the receive path never looks (C11): adding coins `δ` to accounts and
  denominations the path never debits, and prefixing the records of calls and moves, commutes with every
  primitive operation of the context: `send` and `burn` where `δ` is zero on what they debit, `mint` always, `call` and `emit`
  under the empty fault oracle at a site the prefix does not mention (`Pert.fresh`).
-/
import Orbiter.Lemmas.Ctx
namespace Orbiter

structure Pert where
  δ : Addr → String → Nat
  calls : List (String × Nat)
  moves : List Move

/-- `c` with `δ` added to the balances and the two records prefixed. -/
def Pert.ap (P : Pert) (c : Ctx) : Ctx :=
  { c with bank := { c.bank with bal := fun a d => c.bank.bal a d + P.δ a d }, calls := P.calls ++ c.calls, moves := P.moves ++ c.moves }

@[simp] theorem Pert.ap_ext (P : Pert) (c : Ctx) : (P.ap c).ext = c.ext := rfl
@[simp] theorem Pert.ap_reqs (P : Pert) (c : Ctx) : (P.ap c).reqs = c.reqs := rfl
@[simp] theorem Pert.ap_events (P : Pert) (c : Ctx) : (P.ap c).events = c.events := rfl
@[simp] theorem Pert.ap_bal (P : Pert) (c : Ctx) (a : Addr) (d : String) : (P.ap c).bank.bal a d = c.bank.bal a d + P.δ a d := rfl
@[simp] theorem Pert.ap_supply (P : Pert) (c : Ctx) : (P.ap c).bank.supply = c.bank.supply := rfl

theorem Pert.ap_with_reqs (P : Pert) (c : Ctx) (r : List Req) : P.ap { c with reqs := r } = { P.ap c with reqs := r } := rfl

theorem Pert.ap_with_ext (P : Pert) (c : Ctx) (e : ExtState) : P.ap { c with ext := e } = { P.ap c with ext := e } := rfl

/-- A site that the prefix does not mention. -/
def Pert.fresh (P : Pert) (site : String) : Prop := ∀ x ∈ P.calls, x.1 ≠ site

theorem Pert.ap_count (P : Pert) (c : Ctx) (site : String) (h : P.fresh site) : (P.ap c).count site = c.count site := by
  unfold Ctx.count Pert.ap
  simp only [List.filter_append, List.length_append]
  have : (P.calls.filter (·.1 == site)) = [] := by
    rw [List.filter_eq_nil_iff]
    intro x hx
    simpa using h x hx
  rw [this]; simp

theorem Pert.call_comm (P : Pert) (c : Ctx) (site : String) (h : P.fresh site) :
    Ctx.call noFaults (P.ap c) site = (Ctx.call noFaults c site).map P.ap := by
  unfold Ctx.call
  simp only [P.ap_count c site h, noFaults, Bool.false_eq_true, ↓reduceIte, Res.map]
  simp only [Pert.ap, List.append_assoc]

theorem Ledger.send_pert (l : Ledger) (δ : Addr → String → Nat) (src dst : Addr) (d : String) (amt : Nat) (h : δ src d = 0) :
    ({ l with bal := fun a x => l.bal a x + δ a x } : Ledger).send src dst d amt =
      (l.send src dst d amt).map fun l' => { l' with bal := fun a x => l'.bal a x + δ a x } := by
  unfold Ledger.send
  simp only [h, Nat.add_zero]
  split
  · rfl
  · simp only [Option.map_some, Option.some.injEq, Ledger.setBal, Ledger.mk.injEq, and_true]
    funext a x
    by_cases h1 : a = dst ∧ x = d
    · obtain ⟨rfl, rfl⟩ := h1
      by_cases h2 : a = src
      · subst h2; simp [h]
      · simp [h2]; omega
    · by_cases h2 : a = src ∧ x = d
      · obtain ⟨rfl, rfl⟩ := h2
        have hne : ¬ a = dst := fun e => h1 ⟨e, rfl⟩
        simp [hne, h]
      · simp [h1, h2]

theorem Pert.send_comm (P : Pert) (c : Ctx) (src dst : Addr) (d tag : String) (amt : Nat) (h : P.δ src d = 0) :
    (P.ap c).send src dst d amt tag = (c.send src dst d amt tag).map P.ap := by
  unfold Ctx.send
  simp only [Pert.ap_ext]
  by_cases hc : (d == c.ext.mintingDenom && amt != 0 && (c.ext.ftfPaused || c.ext.blacklisted src || c.ext.blacklisted dst)) = true
  · simp only [hc, ↓reduceIte, Res.map]
  · simp only [hc, Bool.false_eq_true, ↓reduceIte]
    have := Ledger.send_pert c.bank P.δ src dst d amt h
    simp only [Pert.ap] at this ⊢
    rw [this]
    cases c.bank.send src dst d amt with
    | none => rfl
    | some b => simp only [Option.map_some, Res.map, List.append_assoc]; rfl

theorem Ledger.burn_pert (l : Ledger) (δ : Addr → String → Nat) (src : Addr) (d : String) (amt : Nat) (h : δ src d = 0) :
    ({ l with bal := fun a x => l.bal a x + δ a x } : Ledger).burn src d amt =
      (l.burn src d amt).map fun l' => { l' with bal := fun a x => l'.bal a x + δ a x } := by
  unfold Ledger.burn
  simp only [h, Nat.add_zero]
  split
  · rfl
  · simp only [Option.map_some, Option.some.injEq, Ledger.setBal, Ledger.mk.injEq, and_true]
    funext a x
    by_cases h2 : a = src ∧ x = d
    · obtain ⟨rfl, rfl⟩ := h2
      simp [h]
    · simp [h2]

theorem Pert.burn_comm (P : Pert) (c : Ctx) (src : Addr) (d tag : String) (amt : Nat) (h : P.δ src d = 0) :
    (P.ap c).burn src d amt tag = (c.burn src d amt tag).map P.ap := by
  unfold Ctx.burn
  have := Ledger.burn_pert c.bank P.δ src d amt h
  simp only [Pert.ap] at this ⊢
  rw [this]
  cases c.bank.burn src d amt with
  | none => rfl
  | some b => simp only [Option.map_some, Res.map, List.append_assoc]; rfl

theorem Pert.mint_comm (P : Pert) (c : Ctx) (dst : Addr) (d : String) (amt : Nat) : (P.ap c).mint dst d amt = P.ap (c.mint dst d amt) := by
  simp only [Ctx.mint, Pert.ap, Ledger.mint, Ledger.setBal, List.append_assoc, Ctx.mk.injEq, Ledger.mk.injEq, and_true]
  funext a x
  by_cases h : a = dst ∧ x = d
  · obtain ⟨rfl, rfl⟩ := h; simp; omega
  · simp [h]

theorem Pert.emit_comm (P : Pert) (c : Ctx) (ev : String) (h : P.fresh "event.Emit") :
    (P.ap c).emit noFaults ev = (c.emit noFaults ev).map P.ap := by
  unfold Ctx.emit
  rw [P.call_comm c _ h]
  cases Ctx.call noFaults c "event.Emit" with
  | ok c1 => rfl
  | err e => rfl
  | panic e => rfl

/-- The tail of a forwarding controller: record the request, register the call of the bridge, run the bridge `b`. -/
theorem Pert.reqCall_comm (P : Pert) (c : Ctx) (r : Req) (site : String) (hf : P.fresh site) {b : Ctx → Res Ctx}
    (hb : ∀ c1, c1.ext = c.ext → b (P.ap c1) = (b c1).map P.ap) :
    (Ctx.call noFaults { P.ap c with reqs := (P.ap c).reqs ++ [r] } site >>= b) =
      (Ctx.call noFaults { c with reqs := c.reqs ++ [r] } site >>= b).map P.ap := by
  rw [← Pert.ap_with_reqs]
  simp only [Pert.ap_reqs, P.call_comm _ _ hf, Res.map_bind', Res.bind_map']
  exact Res.bind_congr fun c1 h1 => hb c1 (Ctx.call_eff h1).ext

end Orbiter
