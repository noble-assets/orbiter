/-
  Decimal text. `natDigits` is the library's `Nat.toDigits 10` and `decVal` its `Nat.ofDigitChars 10` (`natDigits_eq_toDigits`,
  `decVal_eq_ofDigitChars`), so value, digits and length of a rendered number are the library's; `canonicalDigits` are the digit
  strings `natDigits` writes, and on them the two are mutually inverse (`decVal_natDigits`, `natDigits_decVal`). A fact about a
  digit character is checked on the ten literals (`digit_ind`). The number parsers of `Prims.lean` read a rendered number back.
-/
import Orbiter.Prims
namespace Orbiter

theorem digitChar_ne_colon (n : Nat) : digitChar n ≠ ':' := by
  unfold digitChar; split <;> decide

/-- `isDigit` is the library's `Char.isDigit`, by unfolding. -/
theorem isDigit_toNat {c : Char} (h : isDigit c = true) : 48 ≤ c.toNat ∧ c.toNat ≤ 57 := Char.isDigit_iff_toNat.mp h

/-- A fact about digit characters is a fact about the ten literals. -/
theorem digit_ind {P : Char → Prop} (h : ∀ k < 10, P (Char.ofNat (48 + k))) {c : Char} (hc : isDigit c = true) : P c := by
  have hr := isDigit_toNat hc
  have := h (c.toNat - 48) (by omega)
  rwa [show 48 + (c.toNat - 48) = c.toNat by omega, Char.ofNat_toNat] at this

theorem digitChar_digitVal {c : Char} (h : isDigit c = true) : digitChar (digitVal c) = c :=
  digit_ind (P := fun c => digitChar (digitVal c) = c) (by decide) h

theorem digitVal_lt {c : Char} (h : isDigit c = true) : digitVal c < 10 :=
  digit_ind (P := fun c => digitVal c < 10) (by decide) h

theorem decVal_eq_ofDigitChars (cs : List Char) : decVal cs = Nat.ofDigitChars 10 cs 0 := by
  unfold decVal Nat.ofDigitChars
  congr
  funext a c
  rw [Nat.mul_comm]
  rfl

theorem decVal_append (a b : List Char) : decVal (a ++ b) = decVal a * 10 ^ b.length + decVal b := by
  simp only [decVal_eq_ofDigitChars]
  rw [Nat.ofDigitChars_append, Nat.ofDigitChars_eq_ofDigitChars_zero, Nat.mul_comm]

theorem decVal_snoc (a : List Char) (c : Char) : decVal (a ++ [c]) = decVal a * 10 + digitVal c := by
  rw [decVal_append]; simp [decVal]

theorem decVal_cons (c : Char) (cs : List Char) : decVal (c :: cs) = digitVal c * 10 ^ cs.length + decVal cs := by
  have := decVal_append [c] cs
  simpa [decVal] using this

theorem decVal_lt {ds : List Char} (h : ds.all isDigit = true) : decVal ds < 10 ^ ds.length := by
  induction ds with
  | nil => simp [decVal]
  | cons c cs ih =>
    simp only [List.all_cons, Bool.and_eq_true] at h
    have h1 := digitVal_lt h.1
    have h2 := ih h.2
    rw [decVal_cons, List.length_cons, Nat.pow_succ]
    have : digitVal c * 10 ^ cs.length ≤ 9 * 10 ^ cs.length := Nat.mul_le_mul_right _ (by omega)
    omega

theorem mul_add_div_of_lt (q : Nat) {r m : Nat} (h : r < m) : (q * m + r) / m = q := by
  rw [Nat.mul_comm, Nat.mul_add_div (Nat.zero_lt_of_lt h), Nat.div_eq_of_lt h, Nat.add_zero]

theorem decVal_inj_of_length {a b : List Char} (ha : a.all isDigit = true) (hb : b.all isDigit = true)
    (hl : a.length = b.length) (hv : decVal a = decVal b) : a = b := by
  induction a generalizing b with
  | nil => cases b with
    | nil => rfl
    | cons _ _ => simp at hl
  | cons c cs ih =>
    cases b with
    | nil => simp at hl
    | cons d ds =>
      simp only [List.all_cons, Bool.and_eq_true] at ha hb
      simp only [List.length_cons, Nat.add_right_cancel_iff] at hl
      rw [decVal_cons, decVal_cons, hl] at hv
      have hc := decVal_lt ha.2
      have hd := decVal_lt hb.2
      rw [hl] at hc
      -- both sides of `hv` are quotient and remainder by `10 ^ ds.length`: the quotients agree
      have hcd : digitVal c = digitVal d := by rw [← mul_add_div_of_lt (digitVal c) hc, ← mul_add_div_of_lt (digitVal d) hd, hv]
      have hrest : decVal cs = decVal ds := by rw [hcd] at hv; omega
      have hchar : c = d := by
        rw [← digitChar_digitVal ha.1, ← digitChar_digitVal hb.1, hcd]
      rw [hchar, ih ha.2 hb.2 hl hrest]

/-- A decimal numeral as `natDigits` writes it: digits only, at least one, no leading zero except in "0" itself. -/
def canonicalDigits (ds : List Char) : Bool :=
  allDigits ds && (ds.length == 1 || ds.head? != some '0')

theorem canonicalDigits_iff {ds : List Char} :
    canonicalDigits ds = true ↔ ds ≠ [] ∧ ds.all isDigit = true ∧ (ds.length = 1 ∨ ds.head? ≠ some '0') := by
  simp only [canonicalDigits, allDigits, Bool.and_eq_true, Bool.not_eq_true', List.isEmpty_eq_false_iff, ne_eq, Bool.or_eq_true,
    beq_iff_eq, bne_iff_ne, and_assoc]

theorem canonical_all {ds : List Char} (h : canonicalDigits ds = true) : ds.all isDigit = true := (canonicalDigits_iff.mp h).2.1

theorem digitVal_pos_of_ne_zero {c : Char} (h : isDigit c = true) (hz : c ≠ '0') : 1 ≤ digitVal c :=
  digit_ind (P := fun c => c ≠ '0' → 1 ≤ digitVal c) (by decide) h hz

theorem decVal_ge_of_canonical {ds : List Char} (h : canonicalDigits ds = true) (hl : 2 ≤ ds.length) :
    10 ^ (ds.length - 1) ≤ decVal ds := by
  cases ds with
  | nil => simp at hl
  | cons c cs =>
    obtain ⟨-, hall, h2⟩ := canonicalDigits_iff.mp h
    have hne : c ≠ '0' := by
      rcases h2 with h2 | h2
      · omega
      · intro e; exact h2 (by rw [e]; rfl)
    have := digitVal_pos_of_ne_zero (List.all_eq_true.mp hall c List.mem_cons_self) hne
    rw [decVal_cons]
    simp only [List.length_cons, Nat.add_sub_cancel]
    have : 1 * 10 ^ cs.length ≤ digitVal c * 10 ^ cs.length := Nat.mul_le_mul_right _ this
    omega

theorem canonical_inj {a b : List Char} (ha : canonicalDigits a = true) (hb : canonicalDigits b = true)
    (hv : decVal a = decVal b) : a = b := by
  -- a shorter canonical string has a smaller value: `decVal a < 10 ^ a.length ≤ 10 ^ (b.length - 1) ≤ decVal b`
  have key : ∀ a b, canonicalDigits a = true → canonicalDigits b = true → decVal a = decVal b → ¬ a.length < b.length := by
    intro a b ha hb hv hlt
    have la := List.length_pos_iff.mpr (canonicalDigits_iff.mp ha).1
    have ua := decVal_lt (canonical_all ha)
    have lb := decVal_ge_of_canonical hb (by omega)
    have := Nat.pow_le_pow_right (show 0 < 10 by decide) (show a.length ≤ b.length - 1 by omega)
    omega
  have h1 := key a b ha hb hv
  have h2 := key b a hb ha hv.symm
  exact decVal_inj_of_length (canonical_all ha) (canonical_all hb) (by omega) hv

theorem digitChar_of_lt_ten : ∀ n < 10, digitChar n = n.digitChar := by decide

/-- `natDigits` is the library's `Nat.toDigits 10`: that the digits are digits, are not empty, and have the number as their
value is the library's. -/
theorem natDigits_eq_toDigits (n : Nat) : natDigits n = Nat.toDigits 10 n := by
  have key : ∀ fuel n acc, natDigitsAux fuel n acc = Nat.toDigitsCore 10 fuel n acc := by
    intro fuel
    induction fuel with
    | zero => exact fun _ _ => rfl
    | succ fuel ih =>
      intro n acc
      rw [natDigitsAux, Nat.toDigitsCore, ih, digitChar_of_lt_ten _ (Nat.mod_lt n (by decide))]
      by_cases h : n < 10
      · rw [if_pos h, if_pos (Nat.div_eq_of_lt h), Nat.mod_eq_of_lt h, digitChar_of_lt_ten n h]
      · rw [if_neg h, if_neg (by omega)]
  exact key _ _ _

theorem natDigits_ne_nil (n : Nat) : natDigits n ≠ [] := natDigits_eq_toDigits n ▸ Nat.toDigits_ne_nil

theorem natDigits_head_ne_zero {n : Nat} (h : 0 < n) : (natDigits n).head? ≠ some '0' := by
  rw [natDigits_eq_toDigits]
  induction n using Nat.strongRecOn with
  | _ n ih =>
    rw [Nat.toDigits_eq_if (by decide)]
    split
    · exact fun e => Nat.ne_of_gt h (Nat.digitChar_eq_zero.mp (Option.some.inj e))
    · rw [List.head?_append, Option.or_of_isSome (List.isSome_head?.mpr Nat.toDigits_ne_nil)]
      exact ih (n / 10) (by omega) (by omega)

theorem decVal_natDigits (n : Nat) : decVal (natDigits n) = n := by
  rw [decVal_eq_ofDigitChars, natDigits_eq_toDigits, Nat.ofDigitChars_ten_toDigits]

theorem natDigits_zero : natDigits 0 = ['0'] := by decide

theorem natDigits_canonical (n : Nat) : canonicalDigits (natDigits n) = true := by
  have hall : (natDigits n).all isDigit = true :=
    List.all_eq_true.mpr fun _ hc => Nat.isDigit_of_mem_toDigits (by decide) (by decide) (natDigits_eq_toDigits n ▸ hc)
  refine canonicalDigits_iff.mpr ⟨natDigits_ne_nil n, hall, ?_⟩
  by_cases hz : n = 0
  · left; subst hz; rw [natDigits_zero]; rfl
  · right; exact natDigits_head_ne_zero (by omega)

theorem natDigits_all (n : Nat) : (natDigits n).all isDigit = true := canonical_all (natDigits_canonical n)

theorem allDigits_natDigits (n : Nat) : allDigits (natDigits n) = true :=
  (Bool.and_eq_true_iff.mp (natDigits_canonical n)).1

theorem natDigits_forall (P : Char → Prop) (hd : ∀ k < 10, P (Char.ofNat (48 + k))) (n : Nat) : ∀ c ∈ natDigits n, P c :=
  fun c hm => digit_ind hd (List.all_eq_true.mp (natDigits_all n) c hm)

/-- A rendered number starts with a digit. In the form `split` leaves where a parser first looks for a sign:
`heq : natDigits n = '-' :: r` gives `isDigit '-' = true`, which `by decide` refutes. -/
theorem natDigits_head_isDigit {n : Nat} {c : Char} {cs : List Char} (h : natDigits n = c :: cs) : isDigit c = true :=
  List.all_eq_true.mp (natDigits_all n) c (h ▸ List.mem_cons_self)

theorem natDigits_head_ne_minus (n : Nat) : (natDigits n).head? ≠ some '-' := fun hh =>
  have ⟨_, h⟩ := List.head?_eq_some_iff.mp hh
  absurd (natDigits_head_isDigit h) (by decide)

theorem natToDec_toList (n : Nat) : (natToDec n).toList = natDigits n := String.toList_ofList

theorem intToDec_negSucc_toList (n : Nat) : (intToDec (.negSucc n)).toList = '-' :: natDigits (n + 1) := by
  simp [intToDec, natToDec_toList]

theorem natDigits_decVal {ds : List Char} (h : canonicalDigits ds = true) : natDigits (decVal ds) = ds :=
  canonical_inj (natDigits_canonical _) h (decVal_natDigits _)

theorem natDigits_inj (a b : Nat) (h : natDigits a = natDigits b) : a = b := by
  rw [← decVal_natDigits a, ← decVal_natDigits b, h]

theorem natDigits_length_le (n k : Nat) (hk : 1 ≤ k) (h : n < 10 ^ k) : (natDigits n).length ≤ k := by
  rw [natDigits_eq_toDigits]
  exact (Nat.length_toDigits_le_iff (by decide) hk).mpr h

theorem digitValBase_digit {c : Char} (h : isDigit c = true) : digitValBase c = digitVal c :=
  digit_ind (P := fun c => digitValBase c = digitVal c) (by decide) h

theorem digit_ne_underscore {c : Char} (h : isDigit c = true) : (c == '_') = false :=
  digit_ind (P := fun c => (c == '_') = false) (by decide) h

theorem scanDigits0_digits {ds : List Char} (h : ds.all isDigit = true) (prev : Bool) (acc cnt : Nat) (hp : ds ≠ [] ∨ prev = true ∨ cnt = 0) :
    scanDigits0 10 ds prev acc cnt = some (ds.foldl (fun a c => a * 10 + digitVal c) acc, cnt + ds.length) := by
  induction ds generalizing prev acc cnt with
  | nil =>
    unfold scanDigits0
    rcases hp with hp | hp | hp
    · exact absurd rfl hp
    · simp [hp]
    · simp [hp]
  | cons c cs ih =>
    simp only [List.all_cons, Bool.and_eq_true] at h
    unfold scanDigits0
    simp only [digit_ne_underscore h.1, Bool.false_eq_true, ↓reduceIte, digitValBase_digit h.1, digitVal_lt h.1, List.foldl_cons,
      List.length_cons]
    rw [ih h.2 true _ _ (Or.inr (Or.inl rfl))]
    congr 2; omega

theorem parseNat0_natDigits (n : Nat) : parseNat0 (natDigits n) = some n := by
  by_cases hz : n = 0
  · subst hz; rw [natDigits_zero]; rfl
  · have hhead := natDigits_head_ne_zero (n := n) (by omega)
    have hne := natDigits_ne_nil n
    have hs := scanDigits0_digits (natDigits_all n) false 0 0 (Or.inl hne)
    have hv : (natDigits n).foldl (fun a c => a * 10 + digitVal c) 0 = n := decVal_natDigits n
    cases hd : natDigits n with
    | nil => exact absurd hd hne
    | cons c cs =>
      rw [hd] at hhead hs hv
      have hc : c ≠ '0' := by simpa using hhead
      unfold parseNat0
      split
      · rename_i heq; cases heq; exact absurd rfl hc
      · rw [hs]; simp [hv]

theorem parseBigInt0_intToDec (i : Int) : parseBigInt0 (intToDec i) = some i := by
  cases i with
  | ofNat n =>
    unfold parseBigInt0 intToDec
    rw [natToDec_toList]
    split
    · rename_i r heq; exact absurd (natDigits_head_isDigit heq) (by decide)
    · rename_i r heq; exact absurd (natDigits_head_isDigit heq) (by decide)
    · rw [parseNat0_natDigits]; rfl
  | negSucc n =>
    unfold parseBigInt0
    rw [intToDec_negSucc_toList]
    simp only [parseNat0_natDigits, Option.map_some]
    rfl

theorem parseInt_natToDec (m : Nat) : parseInt (natToDec m) = some (Int.ofNat m) := by
  unfold parseInt
  rw [natToDec_toList]
  split
  · rename_i ds heq; exact absurd (natDigits_head_isDigit heq) (by decide)
  · rename_i ds heq; exact absurd (natDigits_head_isDigit heq) (by decide)
  · simp [allDigits_natDigits, decVal_natDigits]

end Orbiter
