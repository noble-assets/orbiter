/- In a module of its own: a simp attribute cannot be used in the file that registers it (`Lemmas/NoPanic.lean` tags the lemmas). -/
import Lean.Meta.Tactic.Simp.RegisterCommand

/-- Where a panic can come from: `Res.PanicsIn` constructor by constructor (`ok`, `err`, `panic`, `bind`, `ite`, `mapErr`), the
functions shown never to panic without a hypothesis, and what clears away the rest: `bind` and `pure` on a constructor, and `True`
in a conjunction or under a quantifier. -/
register_simp_attr np
