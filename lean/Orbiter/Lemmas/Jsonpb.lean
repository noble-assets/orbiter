/-
  The jsonpb decoders (`Orbiter/Jsonpb.lean`) apart from what they decode: where the value a field lookup returns sits in the
  object; predicates that pass from a JSON tree to its sub-trees (`Json.Hereditary`: no null in an array — C14 —, no ambiguous
  object — C19) and so to everything a decoder looks at (`FieldsAll`); the three checks `parsePayload` runs on the whole tree, on
  an object and on an array (`Json.anyNum_obj` … `Json.ambiguous_arr`); the decoders of repeated and optional members with the case
  split on `null` written as a test (`decRepeated_arr`, `decPayload_eq`); `fields_simp`, which runs a decoder on an object literal.
-/
import Orbiter.Jsonpb
import Orbiter.Lemmas.Res
namespace Orbiter

theorem lookupLast_mem {fs : Fields} {k : String} {v : Json} (h : Json.lookupLast fs k = some v) : (k, v) ∈ fs := by
  have key : ∀ (l : Fields) (acc : Option Json),
      l.foldl (fun acc (kv : String × Json) => if kv.1 == k then some kv.2 else acc) acc = some v → acc = some v ∨ (k, v) ∈ l := by
    intro l
    induction l with
    | nil => exact fun acc h => Or.inl h
    | cons x xs ih =>
      intro acc h
      rcases ih _ h with h1 | hm
      · dsimp only at h1
        split at h1
        · rename_i hk
          have hx : x = (k, v) := Prod.ext (by simpa using hk) (by simpa using h1)
          exact Or.inr (hx ▸ List.mem_cons_self)
        · exact Or.inl h1
      · exact Or.inr (List.mem_cons_of_mem _ hm)
  exact (key fs none h).resolve_left nofun

theorem mem_distinctKeys {fs : Fields} {kv : String × Json} (h : kv ∈ fs) : kv.1 ∈ Json.distinctKeys fs := by
  -- the fold only ever appends, and appends the key of `kv` when it comes to `kv` unless it is there already
  have mono : ∀ (l : Fields) (acc : List String) (a : String), a ∈ acc →
      a ∈ l.foldl (fun acc (kv : String × Json) => if acc.contains kv.1 then acc else acc ++ [kv.1]) acc := by
    intro l
    induction l with
    | nil => exact fun _ _ h => h
    | cons y ys ih =>
      intro acc a ha
      refine ih _ a ?_
      dsimp only
      split
      · exact ha
      · exact List.mem_append_left _ ha
  obtain ⟨l1, l2, rfl⟩ := List.append_of_mem h
  rw [Json.distinctKeys, List.foldl_append, List.foldl_cons]
  refine mono _ _ _ ?_
  split
  · rename_i hc; simpa using hc
  · simp

theorem takeField_mem {fs : Fields} {a b : String} {v : Json} (h : (takeField fs a b).1 = some v) : (a, v) ∈ fs ∨ (b, v) ∈ fs := by
  unfold takeField at h
  cases hb : Json.lookupLast fs b with
  | some x => simp only [hb, Option.some.injEq] at h; exact .inr (h ▸ lookupLast_mem hb)
  | none => simp only [hb] at h; exact .inl (lookupLast_mem h)

theorem takeField_absent {fs : Fields} {a b : String} (ha : Json.hasKey fs a = false) (hb : Json.hasKey fs b = false) :
    (takeField fs a b).1 = none := by
  have key : ∀ {k v}, Json.hasKey fs k = false → (k, v) ∉ fs := fun h hm =>
    absurd (beq_self_eq_true _) (List.any_eq_false.mp h _ hm)
  cases h : (takeField fs a b).1 with
  | none => rfl
  | some v => exact ((takeField_mem h).elim (key ha) (key hb)).elim

theorem hasKey_takeField_false {fs : Fields} {a b k : String} (h : Json.hasKey fs k = false) :
    Json.hasKey (takeField fs a b).2 k = false :=
  List.any_eq_false.mpr fun kv hm => List.any_eq_false.mp h kv (List.mem_filter.mp (List.mem_filter.mp hm).1).1

theorem asObject_ok {j : Json} {fs : Fields} : asObject j = .ok fs ↔ j = .obj fs ∨ (j = .null ∧ fs = []) := by
  cases j <;> simp [asObject, eq_comm]

def FieldsAll (Q : Json → Prop) (fs : Fields) : Prop := ∀ kv ∈ fs, Q kv.2

/-- `Q` passes from a tree to the values directly below it. -/
structure Json.Hereditary (Q : Json → Prop) : Prop where
  obj : ∀ {fs}, Q (.obj fs) → FieldsAll Q fs
  arr : ∀ {l}, Q (.arr l) → ∀ x ∈ l, Q x

theorem FieldsAll.eraseKey {Q : Json → Prop} {fs : Fields} (h : FieldsAll Q fs) (k : String) : FieldsAll Q (Json.eraseKey fs k) :=
  fun kv hkv => h kv (List.mem_filter.mp hkv).1

theorem FieldsAll.takeField_val {Q : Json → Prop} {fs : Fields} {a b : String} {v : Json} (h : FieldsAll Q fs)
    (hv : (takeField fs a b).1 = some v) : Q v :=
  (takeField_mem hv).elim (h _) (h _)

theorem FieldsAll.takeField_rest {Q : Json → Prop} {fs : Fields} {a b : String} (h : FieldsAll Q fs) : FieldsAll Q (takeField fs a b).2 :=
  (h.eraseKey a).eraseKey b

theorem asObject_toRes_all {Q : Json → Prop} (hQ : Json.Hereditary Q) {j : Json} {fs : Fields} (hj : Q j)
    (h : (asObject j).toRes = .ok fs) : FieldsAll Q fs := by
  rcases asObject_ok.mp (Dec.toRes_eq_ok.mp h) with rfl | ⟨-, rfl⟩
  · exact hQ.obj hj
  · exact fun _ hkv => nomatch hkv

/-- Every message decoder starts by opening its object: two of them agree if they agree from there on. -/
theorem asObject_bind_congr {Q : Json → Prop} (hQ : Json.Hereditary Q) {β} {j : Json} (hj : Q j) {f g : Fields → Res β}
    (h : ∀ fs, FieldsAll Q fs → f fs = g fs) : ((asObject j).toRes >>= f) = ((asObject j).toRes >>= g) :=
  Res.bind_congr fun fs hfs => h fs (asObject_toRes_all hQ hj hfs)

theorem list_rec_eq_any {α} (g : List α → Bool) (f : α → Bool) (h0 : g [] = false) (hc : ∀ x xs, g (x :: xs) = (f x || g xs)) (l : List α) :
    g l = l.any f := by
  induction l with
  | nil => exact h0
  | cons x xs ih => rw [hc, ih, List.any_cons]

theorem anyNumList_eq_any (p : String → Bool) (l : List Json) : anyNumList p l = l.any (·.anyNum p) :=
  list_rec_eq_any _ _ rfl (fun _ _ => rfl) l

theorem anyNumFields_eq_any (p : String → Bool) (fs : Fields) : anyNumFields p fs = fs.any (·.2.anyNum p) :=
  list_rec_eq_any _ _ rfl (fun ⟨_, _⟩ _ => rfl) fs

theorem nullInArrayList_eq_any (l : List Json) : nullInArrayList l = l.any Json.nullInArray :=
  list_rec_eq_any _ _ rfl (fun _ _ => rfl) l

theorem nullInArrayFields_eq_any (fs : Fields) : nullInArrayFields fs = fs.any (·.2.nullInArray) :=
  list_rec_eq_any _ _ rfl (fun ⟨_, _⟩ _ => rfl) fs

theorem ambiguousList_eq_any (l : List Json) : ambiguousList l = l.any Json.ambiguous :=
  list_rec_eq_any _ _ rfl (fun _ _ => rfl) l

theorem ambiguousFields_eq_any (fs : Fields) : ambiguousFields fs = fs.any (·.2.ambiguous) :=
  list_rec_eq_any _ _ rfl (fun ⟨_, _⟩ _ => rfl) fs

theorem Json.anyNum_obj {p : String → Bool} {fs : Fields} : (Json.obj fs).anyNum p = false ↔ ∀ kv ∈ fs, kv.2.anyNum p = false := by
  simp only [Json.anyNum, anyNumFields_eq_any, List.any_eq_false, Bool.not_eq_true]

theorem Json.anyNum_arr {p : String → Bool} {l : List Json} : (Json.arr l).anyNum p = false ↔ ∀ x ∈ l, x.anyNum p = false := by
  simp only [Json.anyNum, anyNumList_eq_any, List.any_eq_false, Bool.not_eq_true]

theorem Json.nullInArray_obj {fs : Fields} : (Json.obj fs).nullInArray = false ↔ ∀ kv ∈ fs, kv.2.nullInArray = false := by
  simp only [Json.nullInArray, nullInArrayFields_eq_any, List.any_eq_false, Bool.not_eq_true]

theorem Json.nullInArray_arr {l : List Json} :
    (Json.arr l).nullInArray = false ↔ l.any Json.isNull = false ∧ ∀ x ∈ l, x.nullInArray = false := by
  simp only [Json.nullInArray, nullInArrayList_eq_any, Bool.or_eq_false_iff, List.any_eq_false, Bool.not_eq_true]

theorem Json.ambiguous_obj {fs : Fields} :
    (Json.obj fs).ambiguous = false ↔ fieldsAmbiguous fs = false ∧ ∀ kv ∈ fs, kv.2.ambiguous = false := by
  simp only [Json.ambiguous, ambiguousFields_eq_any, Bool.or_eq_false_iff, List.any_eq_false, Bool.not_eq_true]

theorem Json.ambiguous_arr {l : List Json} : (Json.arr l).ambiguous = false ↔ ∀ x ∈ l, x.ambiguous = false := by
  simp only [Json.ambiguous, ambiguousList_eq_any, List.any_eq_false, Bool.not_eq_true]

theorem nullInArray_hereditary : Json.Hereditary (·.nullInArray = false) where
  obj := Json.nullInArray_obj.mp
  arr h := (Json.nullInArray_arr.mp h).2

theorem ambiguous_hereditary : Json.Hereditary (·.ambiguous = false) where
  obj h := (Json.ambiguous_obj.mp h).2
  arr := Json.ambiguous_arr.mp

theorem decOptMember_none {α} {dec : Json → Dec (Option α)} {r : Option (Option α)}
    (h : decOptMember dec none = .ok r) : r = none := by
  simp only [decOptMember, Dec.ok.injEq] at h; exact h.symm

theorem pickFeeType_indep (π₁ π₂ : OneofOrder) (bv : Option (Option Nat)) (av : Option (Option String))
    (h : bv = none ∨ av = none) : pickFeeType π₁ bv av = pickFeeType π₂ bv av := by
  rcases h with rfl | rfl
  · cases av <;> rfl
  · cases bv <;> rfl

theorem decRepeated_arr {α} (dec : Json → Dec α) (items : List Json) :
    decRepeated dec (.arr items) = items.mapM fun it => if it.isNull then .ok none else (dec it).map some := by
  simp only [decRepeated]
  congr 1
  funext it
  cases it <;> rfl

theorem decRepeatedR_arr {α} (dec : Json → Res α) (items : List Json) :
    decRepeatedR dec (.arr items) = items.mapM fun it => if it.isNull then .ok none else (dec it).map some := by
  simp only [decRepeatedR]
  congr 1
  funext it
  cases it <;> rfl

theorem decRepeated_no_none {α} {dec : Json → Dec α} {j : Json} {l : List (Option α)} (hj : j.nullInArray = false)
    (h : decRepeated dec j = .ok l) : l.any Option.isNone = false := by
  cases j with
  | arr items =>
    have hn := (Json.nullInArray_arr.mp hj).1
    rw [decRepeated_arr] at h
    clear hj
    induction items generalizing l with
    | nil => cases h; rfl
    | cons it rest ih =>
      simp only [List.any_cons, Bool.or_eq_false_iff] at hn
      simp only [List.mapM_cons, hn.1, Bool.false_eq_true, ↓reduceIte] at h
      obtain ⟨b, hb, h⟩ := Dec.bind_eq_ok.mp h
      obtain ⟨bs, hbs, h⟩ := Dec.bind_eq_ok.mp h
      cases h
      cases hd : dec it <;> simp only [hd, Dec.map, Dec.ok.injEq, reduceCtorEq] at hb
      subst hb
      simpa using ih hbs hn.2
  | null => cases h; rfl
  | _ => cases h

theorem decRepeated_congr {Q : Json → Prop} (hQ : Json.Hereditary Q) {α} {d₁ d₂ : Json → Dec α} {j : Json} (hj : Q j)
    (h : ∀ x, Q x → d₁ x = d₂ x) : decRepeated d₁ j = decRepeated d₂ j := by
  cases j with
  | arr items =>
    rw [decRepeated_arr, decRepeated_arr]
    exact mapM_congr fun it hit => by rw [h it (hQ.arr hj it hit)]
  | _ => rfl

theorem decRepeatedR_congr {Q : Json → Prop} (hQ : Json.Hereditary Q) {α} {d₁ d₂ : Json → Res α} {j : Json} (hj : Q j)
    (h : ∀ x, Q x → d₁ x = d₂ x) : decRepeatedR d₁ j = decRepeatedR d₂ j := by
  cases j with
  | arr items =>
    rw [decRepeatedR_arr, decRepeatedR_arr]
    exact mapM_congr fun it hit => by rw [h it (hQ.arr hj it hit)]
  | _ => rfl

theorem decOrbiterValue_some (π : OneofOrder) (v : Json) :
    decOrbiterValue π (some v) = if v.isNull then .err "unpack:nil-payload" else decPayload π v := by
  cases v <;> rfl

/-- `decPayload` with the branching of its `do` block on the two optional members moved inside the binds. -/
theorem decPayload_eq (π : OneofOrder) (j : Json) : decPayload π j =
    (asObject j).toRes >>= fun fs =>
    (match (takeField fs "pre_actions" "preActions").1 with
      | some v => decRepeatedR (decAction π) v
      | none => pure []) >>= fun acts =>
    (match (takeField (takeField fs "pre_actions" "preActions").2 "forwarding" "forwarding").1 with
      | some v => if v.isNull then pure none else (decForwarding π v).map some
      | none => pure none) >>= fun fwd =>
    (noUnknown (takeField (takeField fs "pre_actions" "preActions").2 "forwarding" "forwarding").2).toRes >>= fun _ =>
    pure { forwarding := fwd, preActions := acts } := by
  unfold decPayload
  refine Res.bind_congr fun fs _ => ?_
  simp only
  cases (takeField fs "pre_actions" "preActions").1 <;>
    rcases (takeField (takeField fs "pre_actions" "preActions").2 "forwarding" "forwarding").1 with _ | v <;>
    first | rfl | (cases v <;> rfl)

/-- A decoder applied to an object literal, once the decoder and `asObject` are unfolded (before the call, or named among the
arguments): the field lookups are evaluated, the equations in the brackets (per field, what its decoder returns on the value written
there) rewrite the decoded values, and the `do` block runs to its end. -/
macro "fields_simp" "[" ls:Lean.Parser.Tactic.simpLemma,* "]" : tactic =>
  `(tactic| simp only [takeField, Json.lookupLast, Json.eraseKey, List.foldl_cons, List.foldl_nil, List.filter_cons, List.filter_nil,
    String.reduceBEq, String.reduceBNe, Bool.false_eq_true, ↓reduceIte, Dec.bind_ok, Res.bind_ok, Dec.pure_eq, Res.pure_eq, noUnknown,
    List.isEmpty_nil, $ls,*])

theorem checkActionFamily_ok {o : Option Action} :
    checkActionFamily o = .ok () ↔ ∀ a ∈ o, ∀ at_ ∈ a.attrs, at_.isAction = true := by
  rcases o with _ | ⟨id, _ | at_⟩ <;> simp [checkActionFamily]

theorem checkForwardingFamily_ok {o : Option Forwarding} :
    checkForwardingFamily o = .ok () ↔ ∀ f ∈ o, ∀ at_ ∈ f.attrs, at_.isForwarding = true := by
  rcases o with _ | ⟨pid, _ | at_, pass⟩ <;> simp [checkForwardingFamily]

theorem unpackInterfaces_ok {p r : RawPayload} : unpackInterfaces p = .ok r ↔
    (∀ o ∈ p.preActions, checkActionFamily o = .ok ()) ∧ checkForwardingFamily p.forwarding = .ok () ∧ r = p := by
  simp only [unpackInterfaces, Res.seq_eq_ok, Res.allM_eq_ok, Res.pure_eq, Res.ok.injEq, @eq_comm _ r]

theorem decWrapper_families {π : OneofOrder} {j : Json} {r : RawPayload} (h : decWrapper π j = .ok r) :
    (∀ a, some a ∈ r.preActions → ∀ at_, a.attrs = some at_ → at_.isAction = true) ∧
    (∀ f, r.forwarding = some f → ∀ at_, f.attrs = some at_ → at_.isForwarding = true) := by
  unfold decWrapper at h
  obtain ⟨fs, _, h⟩ := Res.bind_eq_ok.mp h
  obtain ⟨p, _, h⟩ := Res.bind_eq_ok.mp h
  obtain ⟨_, _, h⟩ := Res.bind_eq_ok.mp h
  obtain ⟨hacts, hfwd, rfl⟩ := unpackInterfaces_ok.mp h
  exact ⟨fun a ha => checkActionFamily_ok.mp (hacts _ ha) a rfl, fun f hf => checkForwardingFamily_ok.mp hfwd f hf⟩

end Orbiter
