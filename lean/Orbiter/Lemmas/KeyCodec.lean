import Orbiter.Lemmas.Inv
/-!
The string key codec of the pinned collections fork against the faithful one the model uses.  `StringKey.EncodeNonTerminal` loops
`for i := range key` over a Go string: it visits the *first* byte of every character and leaves the others of the (zeroed) buffer
untouched.  For identifiers that pass validation (after repair `8388b7e`: ASCII only) the two encodings coincide, which is what entitles
the model to the faithful one; for `nöble` they differ — the defect as it was.
-/
namespace Orbiter

/-- one character as the fork's non-terminal encoder writes it: its first byte, then zeros -/
def sdkEncChar (c : Char) : Bytes :=
  match String.utf8EncodeChar c with
  | [] => []
  | b :: rest => b :: rest.map (fun _ => 0)

/-- `StringKey.EncodeNonTerminal` of the pinned collections fork -/
def sdkEncStrNT (s : String) : Bytes := s.toList.flatMap sdkEncChar ++ [0]

theorem sdkEncChar_ascii (c : Char) (h : c.toNat < 128) : sdkEncChar c = [byteOf c] := by
  rw [sdkEncChar, utf8EncodeChar_of_ascii h]
  rfl

theorem sdkEncStrNT_eq_of_ascii (s : String) (h : allAscii s = true) : sdkEncStrNT s = encStrNT s := by
  rw [sdkEncStrNT, encStrNT, strBytes_ascii (allAscii_iff.mp h), flatMap_eq_map fun c hc => sdkEncChar_ascii c (allAscii_iff.mp h c hc)]

/-- the statistics keys as the fork's codec writes them -/
def AmtKey.sdkEnc (k : AmtKey) : Bytes := encInt32 k.srcProto ++ sdkEncStrNT k.srcCp ++ sdkEncStrNT k.dstId ++ strBytes k.denom
def CntKey.sdkEnc (k : CntKey) : Bytes := encInt32 k.srcProto ++ sdkEncStrNT k.srcCp ++ encInt32 k.dstProto ++ strBytes k.dstCp

/-- Under the store invariant every statistics key is written by the fork's codec exactly as the model encodes it. -/
theorem OrbState.Inv.keys_faithful {o : OrbState} (hi : o.Inv) :
    (∀ e ∈ o.amounts, e.1.sdkEnc = e.1.enc) ∧ (∀ e ∈ o.counts, e.1.sdkEnc = e.1.enc) := by
  constructor
  · intro e he
    obtain ⟨p, cp, hv, hd⟩ := (hi.amt_valid e he).dst
    unfold AmtKey.sdkEnc AmtKey.enc
    rw [sdkEncStrNT_eq_of_ascii _ (crossChainValid_ascii (hi.amt_valid e he).src), hd, sdkEncStrNT_eq_of_ascii _ (ccidString_ascii (crossChainValid_ascii hv))]
  · intro e he
    unfold CntKey.sdkEnc CntKey.enc
    rw [sdkEncStrNT_eq_of_ascii _ (crossChainValid_ascii (hi.cnt_valid e he).src)]

/-- The defect as it was (before `8388b7e` such an identifier passed validation): the two encodings differ on `nöble`. -/
theorem sdkEnc_differs_on_non_ascii : sdkEncStrNT "nöble" ≠ encStrNT "nöble" := by
  unfold sdkEncStrNT encStrNT
  rw [strBytes_eq]
  decide

end Orbiter
