/-
  The invariant of the module's own store (`OrbState.Inv`) and what holds under it: what a state exports (`export_amounts`,
  `export_counts`), that a statistics step of the import succeeds on a validated entry (`initAmtStep_of_validate`), that the
  export validates and the import is the store rebuilt by insertion (`reimport_eq`), observationally the same (`OrbState.Equiv`,
  which `updateStats` respects: `updateStats_equiv`). Then closure of a predicate under the writes that change the store
  (`OrbState.Kept`) and that `updateStats` keeps such a predicate (`updateStats_preserves`).
-/
import Orbiter.Lemmas.Genesis
import Orbiter.Lemmas.Ids
import Orbiter.Lemmas.Validate
namespace Orbiter

def amtEntryValid (e : AmtKey × (Int × Int)) : Prop :=
  crossChainValid e.1.srcProto e.1.srcCp = true ∧
  (∃ p cp, crossChainValid p cp = true ∧ e.1.dstId = ccidString p cp) ∧
  e.1.denom ≠ "" ∧ e.2.1 ≥ 0 ∧ e.2.2 ≥ 0 ∧ (e.2.1 > 0 ∨ e.2.2 > 0)

def cntEntryValid (e : CntKey × Nat) : Prop :=
  crossChainValid e.1.srcProto e.1.srcCp = true ∧ crossChainValid e.1.dstProto e.1.dstCp = true ∧ e.2 ≠ 0

section
variable {e : AmtKey × (Int × Int)} {c : CntKey × Nat}
theorem amtEntryValid.src (h : amtEntryValid e) : crossChainValid e.1.srcProto e.1.srcCp = true := h.1
theorem amtEntryValid.dst (h : amtEntryValid e) : ∃ p cp, crossChainValid p cp = true ∧ e.1.dstId = ccidString p cp := h.2.1
theorem amtEntryValid.denom (h : amtEntryValid e) : e.1.denom ≠ "" := h.2.2.1
theorem amtEntryValid.nonneg (h : amtEntryValid e) : 0 ≤ e.2.1 ∧ 0 ≤ e.2.2 := ⟨h.2.2.2.1, h.2.2.2.2.1⟩
theorem amtEntryValid.pos (h : amtEntryValid e) : e.2.1 > 0 ∨ e.2.2 > 0 := h.2.2.2.2.2
theorem cntEntryValid.src (h : cntEntryValid c) : crossChainValid c.1.srcProto c.1.srcCp = true := h.1
theorem cntEntryValid.dst (h : cntEntryValid c) : crossChainValid c.1.dstProto c.1.dstCp = true := h.2.1
theorem cntEntryValid.count (h : cntEntryValid c) : c.2 ≠ 0 := h.2.2
end

structure OrbState.Inv (o : OrbState) : Prop where
  pp_nodup : o.pausedProtocols.Nodup
  pp_valid : ∀ p ∈ o.pausedProtocols, protocolValid p = true
  pc_nodup : o.pausedCrossChains.Nodup
  pc_valid : ∀ pc ∈ o.pausedCrossChains, crossChainValid pc.1 pc.2 = true
  pa_nodup : o.pausedActions.Nodup
  pa_valid : ∀ a ∈ o.pausedActions, actionValid a = true
  amt_keys : (o.amounts.map (·.1)).Nodup
  amt_valid : ∀ e ∈ o.amounts, amtEntryValid e
  cnt_keys : (o.counts.map (·.1)).Nodup
  cnt_valid : ∀ e ∈ o.counts, cntEntryValid e

theorem OrbState.Inv_empty : OrbState.Inv {} :=
  ⟨List.nodup_nil, (fun p h => by cases h), List.nodup_nil, (fun p h => by cases h), List.nodup_nil, (fun p h => by cases h),
   List.nodup_nil, (fun p h => by cases h), List.nodup_nil, (fun p h => by cases h)⟩

/-- The exported form of an amounts entry. -/
def amtTuple (e : AmtKey × (Int × Int)) : Option (Int × String) × Option (Int × String) × String × Int × Int :=
  (some (e.1.srcProto, e.1.srcCp), parseCrossChainID e.1.dstId, e.1.denom, e.2.1, e.2.2)

def cntTuple (e : CntKey × Nat) : Option (Int × String) × Option (Int × String) × Nat :=
  (some (e.1.srcProto, e.1.srcCp), some (e.1.dstProto, e.1.dstCp), e.2)

theorem amtEntry_parse {e : AmtKey × (Int × Int)} (h : amtEntryValid e) :
    ∃ p cp, crossChainValid p cp = true ∧ e.1.dstId = ccidString p cp ∧ parseCrossChainID e.1.dstId = some (p, cp) := by
  obtain ⟨p, cp, hv, hd⟩ := h.dst
  exact ⟨p, cp, hv, hd, by rw [hd]; exact parseCrossChainID_ccidString hv⟩

theorem amtEntryOfKey_of_entryValid {e : AmtKey × (Int × Int)} (h : amtEntryValid e) :
    ∃ a, amtEntryOfKey e.1 e.2 = some a ∧ (some a.src, some a.dst, a.denom, a.incoming, a.outgoing) = amtTuple e := by
  obtain ⟨p, cp, _, _, hp⟩ := amtEntry_parse h
  exact ⟨⟨(e.1.srcProto, e.1.srcCp), (p, cp), e.1.denom, e.2.1, e.2.2⟩,
    by simp only [amtEntryOfKey, h.src, hp, Bool.not_true, Bool.false_eq_true, ↓reduceIte], by rw [amtTuple, hp]⟩

theorem cntEntryOfKey_of_entryValid {e : CntKey × Nat} (h : cntEntryValid e) :
    ∃ c, cntEntryOfKey e.1 e.2 = some c ∧ (some c.src, some c.dst, c.count) = cntTuple e :=
  ⟨⟨(e.1.srcProto, e.1.srcCp), (e.1.dstProto, e.1.dstCp), e.2⟩,
    by simp only [cntEntryOfKey, h.src, h.dst, Bool.not_true, Bool.or_self, Bool.false_eq_true, ↓reduceIte], rfl⟩

theorem export_amounts {o : OrbState} (h : ∀ e ∈ o.amounts, amtEntryValid e) :
    (exportGenesis o).amounts = o.amounts.map amtTuple := by
  obtain ⟨l, h1, h2⟩ := mapM_map_of_forall fun e he => amtEntryOfKey_of_entryValid (h e he)
  simp only [exportGenesis, h1]
  exact h2

theorem export_counts {o : OrbState} (h : ∀ e ∈ o.counts, cntEntryValid e) :
    (exportGenesis o).counts = o.counts.map cntTuple := by
  obtain ⟨l, h1, h2⟩ := mapM_map_of_forall fun e he => cntEntryOfKey_of_entryValid (h e he)
  simp only [exportGenesis, h1]
  exact h2

theorem initAmtStep_of_crossChainValid {src dst : Int × String} (hs : crossChainValid src.1 src.2 = true)
    (hd : crossChainValid dst.1 dst.2 = true) (o : OrbState) (den : String) (i u : Int) :
    initAmtStep o (some src, some dst, den, i, u) =
      .ok { o with amounts := upsert amtLt o.amounts ⟨src.1, src.2, ccidString dst.1 dst.2, den⟩ (i, u) } :=
  initAmtStep_ok.mpr ⟨src, dst, rfl, rfl, crossChainValid_noNul hs, ccidString_noNul (crossChainValid_noNul hd),
    by rw [parseCrossChainID_ccidString hd]; rfl, rfl⟩

theorem initCntStep_of_crossChainValid {src : Int × String} (hs : crossChainValid src.1 src.2 = true) (o : OrbState)
    (dst : Int × String) (n : Nat) :
    initCntStep o (some src, some dst, n) = .ok { o with counts := upsert cntLt o.counts ⟨src.1, src.2, dst.1, dst.2⟩ n } :=
  initCntStep_ok.mpr ⟨src, dst, rfl, rfl, crossChainValid_noNul hs, rfl⟩

theorem initAmtStep_of_validate {a : Option (Int × String) × Option (Int × String) × String × Int × Int}
    (hv : validateAmtEntry a = .ok ()) (o : OrbState) : ∃ o', initAmtStep o a = .ok o' := by
  obtain ⟨src, dst, denom, inc, out⟩ := a
  obtain ⟨_, h2, h3, _⟩ := validateAmtEntry_ok.mp hv
  obtain ⟨sp, scp, rfl, hs⟩ := validId_some h2
  obtain ⟨dp, dcp, rfl, hd⟩ := validId_some h3
  exact ⟨_, initAmtStep_of_crossChainValid (src := (sp, scp)) (dst := (dp, dcp)) hs hd o denom inc out⟩

theorem initCntStep_of_validate {c : Option (Int × String) × Option (Int × String) × Nat}
    (hv : validateCntEntry c = .ok ()) (o : OrbState) : ∃ o', initCntStep o c = .ok o' := by
  obtain ⟨src, dst, n⟩ := c
  obtain ⟨_, h2, h3⟩ := validateCntEntry_ok.mp hv
  obtain ⟨sp, scp, rfl, hs⟩ := validId_some h2
  obtain ⟨dp, dcp, rfl, _⟩ := validId_some h3
  exact ⟨_, initCntStep_of_crossChainValid (src := (sp, scp)) hs o (dp, dcp) n⟩

theorem foldlM_initAmtStep_amtTuple (L : List (AmtKey × (Int × Int))) (hL : ∀ e ∈ L, amtEntryValid e) (acc : OrbState) :
    (L.map amtTuple).foldlM initAmtStep acc =
      .ok { acc with amounts := L.foldl (fun a e => upsert amtLt a e.1 e.2) acc.amounts } := by
  induction L generalizing acc with
  | nil => rfl
  | cons e rest ih =>
    obtain ⟨⟨sp, scp, did, den⟩, i, u⟩ := e
    have he := hL _ List.mem_cons_self
    obtain ⟨p, cp, hv, (rfl : did = _)⟩ := he.dst
    rw [List.map_cons, List.foldlM_cons, List.foldl_cons, amtTuple, parseCrossChainID_ccidString hv,
      initAmtStep_of_crossChainValid (src := (sp, scp)) (dst := (p, cp)) he.src hv, Res.bind_ok]
    exact ih (fun x hx => hL x (List.mem_cons_of_mem _ hx)) _

theorem foldlM_initCntStep_cntTuple (L : List (CntKey × Nat)) (hL : ∀ e ∈ L, cntEntryValid e) (acc : OrbState) :
    (L.map cntTuple).foldlM initCntStep acc =
      .ok { acc with counts := L.foldl (fun a e => upsert cntLt a e.1 e.2) acc.counts } := by
  induction L generalizing acc with
  | nil => rfl
  | cons e rest ih =>
    rw [List.map_cons, List.foldlM_cons, List.foldl_cons, cntTuple,
      initCntStep_of_crossChainValid (src := (e.1.srcProto, e.1.srcCp)) (hL e List.mem_cons_self).src, Res.bind_ok]
    exact ih (fun x hx => hL x (List.mem_cons_of_mem _ hx)) _

theorem validate_export {o : OrbState} (hi : o.Inv) : validateGenesis (exportGenesis o) = .ok () := by
  rw [validateGenesis_ok, export_amounts hi.amt_valid, export_counts hi.cnt_valid]
  refine ⟨?_, ?_, hi.pp_valid, ?_, hi.pp_nodup, ?_, hi.pa_valid, hi.pa_nodup⟩
  · intro a ha
    obtain ⟨e, he, rfl⟩ := List.mem_map.mp ha
    have hv := hi.amt_valid e he
    obtain ⟨p, cp, hd, _, hp⟩ := amtEntry_parse hv
    rw [amtTuple, hp, validateAmtEntry_ok]
    exact ⟨hv.denom, hv.src, hd, by have := hv.nonneg; omega, by have := hv.pos; omega⟩
  · intro c hc
    obtain ⟨e, he, rfl⟩ := List.mem_map.mp hc
    have hv := hi.cnt_valid e he
    exact validateCntEntry_ok.mpr ⟨hv.count, hv.src, hv.dst⟩
  · intro c hc
    obtain ⟨pc, hpc, rfl⟩ := List.mem_map.mp hc
    exact hi.pc_valid pc hpc
  · exact (nodup_map_some _).mpr hi.pc_nodup

/-- Observational equivalence of two module states: same pause sets, same limit, same statistics. -/
structure OrbState.Equiv (a b : OrbState) : Prop where
  pp : ∀ q, a.pausedProtocols.contains q = b.pausedProtocols.contains q
  pc : ∀ q, a.pausedCrossChains.contains q = b.pausedCrossChains.contains q
  pa : ∀ q, a.pausedActions.contains q = b.pausedActions.contains q
  params : a.params.getD 0 = b.params.getD 0
  amounts : ∀ k d, lookupD a.amounts k d = lookupD b.amounts k d
  counts : ∀ k d, lookupD a.counts k d = lookupD b.counts k d

/-- The store rebuilt entry by entry, as `initGenesis` does it: every collection sorted by insertion. -/
def OrbState.rebuilt (o : OrbState) : OrbState :=
  { pausedProtocols := sortBy intLt o.pausedProtocols
    pausedCrossChains := sortBy ccLt o.pausedCrossChains
    pausedActions := sortBy intLt o.pausedActions
    params := some (o.params.getD 0)
    amounts := sortBy (keyLt amtLt) o.amounts
    counts := sortBy (keyLt cntLt) o.counts }

theorem reimport_eq {o : OrbState} (hi : o.Inv) : initGenesis (exportGenesis o) = .ok o.rebuilt := by
  rw [initGenesis_ok, export_amounts hi.amt_valid, export_counts hi.cnt_valid]
  -- each pause stage starts from an empty set, so only validity and duplicate-freeness are asked of the exported list
  refine ⟨_, _, _, _, foldlM_initAmtStep_amtTuple _ hi.amt_valid _, foldlM_initCntStep_cntTuple _ hi.cnt_valid _,
    foldlM_setPausedProtocol_ok.mpr ⟨hi.pp_valid, hi.pp_nodup, fun _ _ => List.not_mem_nil, rfl⟩,
    foldlM_initCcStep_ok.mpr ⟨hi.pc_valid, hi.pc_nodup, fun _ _ => List.not_mem_nil, rfl⟩,
    foldlM_setPausedAction_ok.mpr ⟨hi.pa_valid, hi.pa_nodup, fun _ _ => List.not_mem_nil, ?_⟩⟩
  -- `sortBy` is the fold of `insertBy` from `[]` (`sortBy_eq_foldl`), so this is `o.rebuilt` field by field
  simp only [foldl_upsert_eq_sortBy _ hi.amt_keys, foldl_upsert_eq_sortBy _ hi.cnt_keys]
  rfl

theorem OrbState.rebuilt_inv {o : OrbState} (hi : o.Inv) : o.rebuilt.Inv where
  pp_nodup := nodup_sortBy intLt hi.pp_nodup
  pp_valid p hp := hi.pp_valid p ((mem_sortBy intLt).mp hp)
  pc_nodup := nodup_sortBy ccLt hi.pc_nodup
  pc_valid p hp := hi.pc_valid p ((mem_sortBy ccLt).mp hp)
  pa_nodup := nodup_sortBy intLt hi.pa_nodup
  pa_valid p hp := hi.pa_valid p ((mem_sortBy intLt).mp hp)
  amt_keys := ((perm_sortBy _ o.amounts).map (·.1)).nodup_iff.mpr hi.amt_keys
  amt_valid e he := hi.amt_valid e ((mem_sortBy _).mp he)
  cnt_keys := ((perm_sortBy _ o.counts).map (·.1)).nodup_iff.mpr hi.cnt_keys
  cnt_valid e he := hi.cnt_valid e ((mem_sortBy _).mp he)

theorem OrbState.rebuilt_equiv {o : OrbState} (hi : o.Inv) : o.rebuilt.Equiv o where
  pp := contains_sortBy intLt _
  pc := contains_sortBy ccLt _
  pa := contains_sortBy intLt _
  params := rfl
  amounts k d := (lookupD_perm (perm_sortBy _ o.amounts).symm hi.amt_keys k d).symm
  counts k d := (lookupD_perm (perm_sortBy _ o.counts).symm hi.cnt_keys k d).symm

theorem reimport_equiv {o : OrbState} (hi : o.Inv) :
    ∃ o', initGenesis (exportGenesis o) = .ok o' ∧ o'.Inv ∧ o'.Equiv o :=
  ⟨_, reimport_eq hi, OrbState.rebuilt_inv hi, OrbState.rebuilt_equiv hi⟩

theorem reimportStep_inv (o : OrbState) (hi : o.Inv) : (reimportStep o).2.Inv := by
  rw [reimportStep_snd, reimport_eq hi]
  exact OrbState.rebuilt_inv hi

theorem reimportStep_equiv {o : OrbState} (hi : o.Inv) : (reimportStep o).2.Equiv o := by
  rw [reimportStep_snd, reimport_eq hi]
  exact OrbState.rebuilt_equiv hi

theorem addAmount_equiv {a b : OrbState} (h : a.Equiv b) (k : AmtKey) (i u : Int) :
    (addAmount a k i u = none ∧ addAmount b k i u = none) ∨
    (∃ a' b', addAmount a k i u = some a' ∧ addAmount b k i u = some b' ∧ a'.Equiv b') := by
  unfold addAmount
  simp only
  rw [h.amounts k (0, 0)]
  generalize hc : (overflows256 _ || overflows256 _) = cnd
  cases cnd with
  | true => left; simp
  | false =>
    right
    simp only [Bool.false_eq_true, ↓reduceIte]
    refine ⟨_, _, rfl, rfl, ?_⟩
    refine ⟨h.pp, h.pc, h.pa, h.params, ?_, h.counts⟩
    intro k' d
    simp only
    rw [lookupD_upsert, lookupD_upsert, h.amounts k' d]

theorem addAmounts_equiv (mk : String → AmtKey) (l : List (String × Int × Int)) {a b : OrbState} (h : a.Equiv b) :
    (addAmounts mk l a).1.Equiv (addAmounts mk l b).1 ∧ (addAmounts mk l a).2 = (addAmounts mk l b).2 := by
  induction l generalizing a b with
  | nil => exact ⟨h, rfl⟩
  | cons e rest ih =>
    simp only [addAmounts]
    rcases addAmount_equiv h (mk e.1) e.2.1 e.2.2 with ⟨h1, h2⟩ | ⟨a', b', h1, h2, he⟩
    · rw [h1, h2]; exact ⟨h, rfl⟩
    · rw [h1, h2]; exact ih he

theorem addCount_equiv {a b : OrbState} (h : a.Equiv b) (ck : CntKey) :
    (addCount a ck).1.Equiv (addCount b ck).1 ∧ (addCount a ck).2 = (addCount b ck).2 := by
  rw [addCount_eq, addCount_eq, h.counts ck 0]
  split
  · exact ⟨h, rfl⟩
  · refine ⟨⟨h.pp, h.pc, h.pa, h.params, h.amounts, ?_⟩, rfl⟩
    intro k' d
    simp only
    rw [lookupD_upsert, lookupD_upsert, h.counts k' d]

theorem updateStats_equiv {a b : OrbState} (h : a.Equiv b) (t : TransferAttrs) (f : Forwarding) :
    (updateStats a t f).1.Equiv (updateStats b t f).1 := by
  rcases updateStats_cases t f with hu | ⟨x, -, -, -, hu⟩ <;> rw [hu, hu]
  · exact h
  · obtain ⟨h1, h2⟩ := addAmounts_equiv (fun d => (⟨t.srcProtocol, t.srcCounterparty, ccidString f.protocolId x.counterpartyID, d⟩ : AmtKey))
      (buildDispatched t) h
    simp only [h2]
    split
    · exact h1
    · exact (addCount_equiv h1 _).1

theorem OrbState.Inv.amt_nonneg {o : OrbState} (hi : o.Inv) (k : AmtKey) :
    0 ≤ (lookupD o.amounts k (0, 0)).1 ∧ 0 ≤ (lookupD o.amounts k (0, 0)).2 := by
  rcases lookupD_mem_or_default o.amounts k (0, 0) with h | ⟨e, he, _, hv⟩
  · rw [h]
    exact ⟨Int.le_refl _, Int.le_refl _⟩
  · rw [← hv]
    exact (hi.amt_valid e he).nonneg

theorem OrbState.Inv.upsert_amount {o : OrbState} (hi : o.Inv) {k : AmtKey} {v : Int × Int} (hv : amtEntryValid (k, v)) :
    OrbState.Inv { o with amounts := upsert amtLt o.amounts k v } :=
  { hi with
    amt_keys := nodup_keys_upsert amtLt hi.amt_keys
    amt_valid := fun e he => (mem_upsert_cases amtLt he).elim (· ▸ hv) (hi.amt_valid e) }

theorem OrbState.Inv.upsert_count {o : OrbState} (hi : o.Inv) {k : CntKey} {n : Nat} (hv : cntEntryValid (k, n)) :
    OrbState.Inv { o with counts := upsert cntLt o.counts k n } :=
  { hi with
    cnt_keys := nodup_keys_upsert cntLt hi.cnt_keys
    cnt_valid := fun e he => (mem_upsert_cases cntLt he).elim (· ▸ hv) (hi.cnt_valid e) }

/-- Closure under the writes the module makes to its store: the seven of a message and, for the two of the statistics update, the
upsert of *any* valid entry — more than `updateStats` writes, so `run_preserves` carries the invariant, sortedness and facts about
the admin fields, and no fact about what the statistics hold (C12's accumulation has its own induction). -/
structure OrbState.Kept (Q : OrbState → Prop) : Prop extends OrbState.MsgKept Q where
  amount : ∀ {o k v}, Q o → amtEntryValid (k, v) → Q { o with amounts := upsert amtLt o.amounts k v }
  count : ∀ {o k n}, Q o → cntEntryValid (k, n) → Q { o with counts := upsert cntLt o.counts k n }

theorem updateStats_preserves {Q : OrbState → Prop} (hQ : ∀ o, Q o → o.Inv) (hk : OrbState.Kept Q)
    (o : OrbState) (t : TransferAttrs) (f : Forwarding) (hq : Q o) (ht : t.validate = .ok ()) : Q (updateStats o t f).1 := by
  obtain ⟨_, hsc, hsa, hdc, hda⟩ := TransferAttrs.validate_ok.mp ht
  have hsd := validDenom_ne_empty (coinValid_denom hsc)
  have hdd := validDenom_ne_empty (coinValid_denom hdc)
  refine updateStats_ind o t f hq (fun a _ hv1 hv2 e he o o' hq h => ?_)
    (fun a _ hv1 hv2 o hq => hk.count hq ⟨hv1, hv2, Nat.succ_ne_zero _⟩)
  -- an entry of `buildDispatched`: (source, in, out), or (source, in, 0) and (destination, 0, out)
  have he' : e.1 ≠ "" ∧ 0 ≤ e.2.1 ∧ 0 ≤ e.2.2 ∧ (0 < e.2.1 ∨ 0 < e.2.2) := by
    rcases buildDispatched_cases t with ⟨-, hb⟩ | ⟨-, hb⟩ <;> simp only [hb, List.mem_cons, List.not_mem_nil, or_false] at he
    · subst he
      exact ⟨hsd, Int.le_of_lt hsa, Int.le_of_lt hda, Or.inl hsa⟩
    · rcases he with rfl | rfl
      · exact ⟨hsd, Int.le_of_lt hsa, Int.le_refl 0, Or.inl hsa⟩
      · exact ⟨hdd, Int.le_refl 0, Int.le_of_lt hda, Or.inr hda⟩
  -- the key is valid by `hv1`, `hv2`; the new totals are `if i > 0 then cur + i else cur` (`addAmount_some`) over totals that are
  -- non-negative by the invariant: linear arithmetic
  obtain ⟨hd, hi0, hu0, hpos⟩ := he'
  rw [addAmount_some h]
  obtain ⟨c1, c2⟩ := (hQ o hq).amt_nonneg ⟨t.srcProtocol, t.srcCounterparty, ccidString f.protocolId a.counterpartyID, e.1⟩
  refine hk.amount hq ⟨hv1, ⟨_, _, hv2, rfl⟩, hd, ?_⟩
  dsimp only
  omega

end Orbiter
