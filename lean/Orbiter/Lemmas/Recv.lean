/-
  The receive path function by function. `f_ok`: what a successful run of `f` consists of (which checks passed, which calls of
  the next functions down succeeded); `f_eff`: the same with the effect on the context (`Ctx.Eff`) in place of the calls; `f_eq`:
  `f` with its `do` block written out, where properties about all outcomes need it; `_app_`: on the chain's wiring. Then the
  middleware: every run by outcome (`mwOnRecv_cases`, `ibcRecv_cases`), the stages of a success (`RecvStages`), and what the
  handlers read of the store (`forwarderHandle_congr` … `mwOnRecv_congr`).
-/
import Orbiter.Lemmas.State
import Orbiter.Lemmas.Ctx
import Orbiter.Lemmas.Validate
namespace Orbiter

section

variable {cfg : Cfg} {wr : Wiring} {π : OneofOrder} {φ : Faults} {o : OrbState} {c c' : Ctx} {t t' : TransferAttrs} {f : Forwarding}
  {a : Action} {acts : List Action} {pkt : Packet} {p : Payload}

/-- What the adapter has checked of a packet it hands on as an orbiter transfer, and the attributes it builds. -/
structure Adapted (wr : Wiring) (pkt : Packet) (t : TransferAttrs) (p : Payload) where
  d : FTPD
  decoded : decFTPD pkt.data = some d
  receiver : accAddressFromBech32 wr.cfg.hrp d.receiver = some wr.cfg.orbAddr
  parsed : parsePayload wr.π (strBytes d.memo) = .ok p
  amount : newIntFromString d.amount = some t.srcAmount
  denom : recoverNativeDenom d.denom pkt.srcPort pkt.srcChan = .ok t.srcDenom
  srcProtocol : t.srcProtocol = PROTOCOL_IBC
  srcCounterparty : t.srcCounterparty = pkt.dstChan
  dstDenom : t.dstDenom = t.srcDenom
  dstAmount : t.dstAmount = t.srcAmount
  valid : t.validate = .ok ()

theorem adaptPacket_ok (h : adaptPacket wr pkt = .ok (.orbiter t p)) : Nonempty (Adapted wr pkt t p) := by
  unfold adaptPacket at h
  cases hd : decFTPD pkt.data with
  | none => simp only [hd, Res.ok.injEq, reduceCtorEq] at h
  | some d =>
    cases hr : accAddressFromBech32 wr.cfg.hrp d.receiver with
    | none => simp only [hd, hr, Res.ok.injEq, reduceCtorEq] at h
    | some r =>
      simp only [hd, hr] at h
      split at h
      · cases h
      · rename_i hne
        obtain ⟨p', hp, h⟩ := Res.bind_eq_ok.mp h
        cases hamt : newIntFromString d.amount with
        | none => simp only [hamt, Res.bind_err, Res.pure_eq, reduceCtorEq] at h
        | some amt =>
          simp only [hamt, Res.pure_eq, Res.bind_ok, Res.bind_eq_ok, Res.bind_err, Res.ite_err_eq_ok, Res.mapErr_eq_ok, newTransferAttrs,
            Res.ok.injEq, Parsed.orbiter.injEq] at h
          obtain ⟨dn, hdn, _, t0, ⟨_, hv, rfl⟩, rfl, rfl⟩ := h
          exact ⟨⟨d, hd, by rw [hr]; simpa using hne, hp, hamt, hdn, rfl, rfl, rfl, rfl, hv⟩⟩

theorem beforeTransferHook_eq :
    beforeTransferHook wr φ o c t p =
    if o.params.getD 0 < (match p.forwarding with | some f => f.passthrough | none => []).length then .err "adapter:passthrough-size"
    else if c.bank.bal wr.cfg.orbAddr t.dstDenom == 0 then .ok c
    else (c.call φ "bank.SendCoinsFromModuleToModule") >>= fun c1 =>
      c1.send wr.cfg.orbAddr wr.cfg.dustAddr t.dstDenom (c.bank.bal wr.cfg.orbAddr t.dstDenom) "adapter:sweep" := by
  unfold beforeTransferHook
  cases p.forwarding <;> (simp only [gt_iff_lt]; split <;> rfl)

theorem beforeTransferHook_ok {c1 : Ctx} (h : beforeTransferHook wr φ o c t p = .ok c1) :
    (c.bank.bal wr.cfg.orbAddr t.dstDenom = 0 ∧ c1 = c) ∨
    (c.bank.bal wr.cfg.orbAddr t.dstDenom ≠ 0 ∧ ∃ c0, c.call φ "bank.SendCoinsFromModuleToModule" = .ok c0 ∧
      c0.send wr.cfg.orbAddr wr.cfg.dustAddr t.dstDenom (c.bank.bal wr.cfg.orbAddr t.dstDenom) "adapter:sweep" = .ok c1) := by
  rw [beforeTransferHook_eq, Res.ite_err_eq_ok] at h
  by_cases hz : c.bank.bal wr.cfg.orbAddr t.dstDenom = 0
  · simp only [hz, beq_self_eq_true, ↓reduceIte, Res.ok.injEq] at h
    exact .inl ⟨hz, h.2.symm⟩
  · simp only [beq_iff_eq, hz, ↓reduceIte] at h
    exact .inr ⟨hz, Res.bind_eq_ok.mp h.2⟩

theorem beforeTransferHook_eff {c c1 : Ctx}
    (h : beforeTransferHook wr φ o c t p = .ok c1) :
    Ctx.Eff φ c c1 (if c.bank.bal wr.cfg.orbAddr t.dstDenom = 0 then []
      else [.xfer wr.cfg.orbAddr wr.cfg.dustAddr t.dstDenom (c.bank.bal wr.cfg.orbAddr t.dstDenom)]) [] := by
  rcases beforeTransferHook_ok h with ⟨hz, rfl⟩ | ⟨hz, c0, h0, h1⟩
  · rw [if_pos hz]; exact Ctx.Eff.refl φ c1
  · rw [if_neg hz]; exact (Ctx.call_eff h0).trans (Ctx.send_eff h1)

theorem beforeTransferHook_bal {c1 : Ctx} (hd : wr.cfg.dustAddr ≠ wr.cfg.orbAddr) (h : beforeTransferHook wr φ o c t p = .ok c1)
    (a : Addr) (d : String) :
    c1.bank.bal a d =
      if a = wr.cfg.orbAddr ∧ d = t.dstDenom then 0
      else if a = wr.cfg.dustAddr ∧ d = t.dstDenom then c.bank.bal a d + c.bank.bal wr.cfg.orbAddr t.dstDenom
      else c.bank.bal a d := by
  have e := (beforeTransferHook_eff h).bank
  have hne : ¬ wr.cfg.orbAddr = wr.cfg.dustAddr := fun e => hd e.symm
  by_cases hz : c.bank.bal wr.cfg.orbAddr t.dstDenom = 0
  · rw [if_pos hz] at e
    rw [← Option.some.inj e]
    by_cases h1 : a = wr.cfg.orbAddr ∧ d = t.dstDenom
    · rw [if_pos h1, h1.1, h1.2, hz]
    · rw [if_neg h1, hz, Nat.add_zero, ite_self]
  · rw [if_neg hz, Ledger.replay_singleton] at e
    rw [Ledger.send_bal e a d]
    by_cases hdd : d = t.dstDenom
    · subst hdd
      by_cases h1 : a = wr.cfg.orbAddr
      · subst h1; simp [hne]
      · by_cases h2 : a = wr.cfg.dustAddr
        · subst h2; simp [h1]
        · simp [h1, h2]
    · simp [hdd]

/-- A denomination without trace has no voucher: ICS-20 credits it under its own name. -/
theorem ibcDenom_native {n : String} (h : (parseDenomTrace n).1 = "") : ibcDenom cfg n = n := by
  simp [ibcDenom, h]

theorem ics20Recv_ok (h : ics20Recv cfg c pkt = .ok c') :
    ∃ d amt receiver, decFTPD pkt.data = some d ∧ newIntFromString d.amount = some amt ∧
      accAddressFromBech32 cfg.hrp d.receiver = some receiver ∧
      ((d.denom.startsWith (denomPrefix pkt.srcPort pkt.srcChan) = true ∧ ∃ c1 f,
          c.send (cfg.escrow pkt.dstPort pkt.dstChan) receiver
            (ibcDenom cfg (d.denom.drop (denomPrefix pkt.srcPort pkt.srcChan).length).toString) amt.toNat "ics20:unescrow" = .ok c1 ∧
          c' = { c1 with ext := { c1.ext with totalEscrow := f } }) ∨
       (d.denom.startsWith (denomPrefix pkt.srcPort pkt.srcChan) = false ∧
        (c.mint cfg.transferModule (ibcDenom cfg (denomPrefix pkt.dstPort pkt.dstChan ++ d.denom)) amt.toNat).send cfg.transferModule receiver
          (ibcDenom cfg (denomPrefix pkt.dstPort pkt.dstChan ++ d.denom)) amt.toNat "ics20:send-voucher" = .ok c')) := by
  unfold ics20Recv at h
  cases hd : decFTPD pkt.data with
  | none => rw [hd] at h; cases h
  | some d =>
    simp only [hd] at h
    cases hamt : newIntFromString d.amount with
    | none => rw [hamt] at h; cases h
    | some amt =>
      simp only [hamt, Res.pure_eq, Res.bind_ok, Res.bind_err, Res.ite_err_eq_ok] at h
      obtain ⟨_, _, _, _, _, h⟩ := h
      cases hr : accAddressFromBech32 cfg.hrp d.receiver with
      | none => rw [hr] at h; cases h
      | some r =>
        refine ⟨d, amt, r, rfl, hamt, hr, ?_⟩
        simp only [hr] at h
        by_cases hpre : d.denom.startsWith (denomPrefix pkt.srcPort pkt.srcChan) = true
        · rw [if_pos hpre] at h
          simp only [Res.bind_eq_ok, Res.ite_err_eq_ok, Res.ite_panic_eq_ok, Res.ok.injEq] at h
          obtain ⟨_, _, _, c1, h1, _, rfl⟩ := h
          exact Or.inl ⟨hpre, c1, _, h1, rfl⟩
        · rw [if_neg hpre] at h
          exact Or.inr ⟨by simpa using hpre, (Res.ite_err_eq_ok.mp h).2⟩

/-- ICS-20 registers no call and no request, and whatever is read of the external state other than its escrow bookkeeping reads
the same afterwards. -/
theorem ics20Recv_frame (h : ics20Recv cfg c pkt = .ok c') :
    c'.calls = c.calls ∧ c'.reqs = c.reqs ∧
    ∀ {α : Type} (g : ExtState → α), (∀ e f, g { e with totalEscrow := f } = g e) → g c'.ext = g c.ext := by
  obtain ⟨d, amt, r, _, _, _, ⟨_, c1, f, h1, rfl⟩ | ⟨_, h1⟩⟩ := ics20Recv_ok h
  · obtain ⟨_, _, rfl⟩ := Ctx.send_ok h1
    exact ⟨rfl, rfl, fun g hg => hg _ _⟩
  · obtain ⟨_, _, rfl⟩ := Ctx.send_ok h1
    exact ⟨rfl, rfl, fun _ _ => rfl⟩

theorem ics20Recv_steps (h : ics20Recv cfg c pkt = .ok c') :
    ∃ d receiver ms, decFTPD pkt.data = some d ∧ accAddressFromBech32 cfg.hrp d.receiver = some receiver ∧ Ctx.Steps c c' ms ∧
      ∀ m ∈ ms, ∀ x, m.credits x → x = receiver ∨ x = cfg.transferModule := by
  obtain ⟨d, amt, r, hd, _, hr, ⟨_, c1, f, h1, rfl⟩ | ⟨_, h1⟩⟩ := ics20Recv_ok h
  · have e := Ctx.send_steps h1
    refine ⟨d, r, _, hd, hr, ⟨e.moves, e.bank⟩, fun m hm x hx => ?_⟩
    cases List.mem_singleton.mp hm
    exact Or.inl hx.1.symm
  · have e := Ctx.send_steps h1
    refine ⟨d, r, [.mint cfg.transferModule _ amt.toNat, _], hd, hr, ⟨by simpa [Ctx.mint] using e.moves, ?_⟩, fun m hm x hx => ?_⟩
    · simpa [Ledger.replay_cons, Ledger.apply, Ctx.mint] using e.bank
    · simp only [List.mem_cons, List.not_mem_nil, or_false] at hm
      rcases hm with rfl | rfl
      · exact Or.inr hx.symm
      · exact Or.inl hx.1.symm

theorem wrappedApp_ok (h : wrappedApp wr φ c pkt = .ok c') :
    ∃ c0, c.call φ "app.OnRecvPacket" = .ok c0 ∧ ics20Recv wr.cfg c0 pkt = .ok c' :=
  Res.bind_eq_ok.mp h

theorem wrappedApp_frame (h : wrappedApp wr φ c pkt = .ok c') :
    (∀ x ∈ c'.calls, x ∈ c.calls ∨ φ x.1 x.2 = false) ∧ c'.reqs = c.reqs ∧
    ∀ {α : Type} (g : ExtState → α), (∀ e f, g { e with totalEscrow := f } = g e) → g c'.ext = g c.ext := by
  obtain ⟨c0, h0, h⟩ := wrappedApp_ok h
  have e := Ctx.call_eff h0
  obtain ⟨hc, hr, hx⟩ := ics20Recv_frame h
  exact ⟨fun x hm => e.calls x (hc ▸ hm), by rw [hr, e.reqs, List.append_nil], fun g hg => (hx g hg).trans (congrArg g e.ext)⟩

theorem payFees_eff {orb : Addr} {denom : String} {l : List (Bytes × Int)}
    (h : payFees φ orb denom l c = .ok c') : Ctx.Eff φ c c' (l.map fun v => .xfer orb v.1 denom v.2.toNat) [] := by
  induction l generalizing c with
  | nil => cases h; exact Ctx.Eff.refl φ _
  | cons v rest ih =>
    simp only [payFees, Res.bind_eq_ok] at h
    obtain ⟨c1, h1, c2, h2, h⟩ := h
    exact ((Ctx.call_eff h1).trans (Ctx.send_eff h2)).trans (ih h)

theorem feeController_eff
    (h : feeController cfg φ c t a = .ok (c', t')) :
    ∃ fees, t' = t.setDstAmount (t.dstAmount - fees.total) ∧
      Ctx.Eff φ c c' (fees.values.map fun v => .xfer cfg.orbAddr v.1 t.dstDenom v.2.toNat) [] ∧ fees.total < t.dstAmount ∧
      ∃ infos, a.attrs = some (.fee infos) ∧ validateFeeAttrs cfg.hrp infos = .ok () ∧
        computeFees cfg.hrp t.dstAmount t.dstDenom infos { values := [], total := 0 } = .ok fees := by
  unfold feeController at h
  cases ha : a.attrs with
  | none => simp only [ha, Res.bind_err, reduceCtorEq] at h
  | some at_ =>
    cases at_ with
    | fee infos =>
      simp only [ha, Res.pure_eq, Res.bind_ok, Res.bind_eq_ok, Res.bind_err, Res.ite_err_eq_ok, Res.mapErr_eq_ok, Res.ok.injEq, Prod.mk.injEq] at h
      obtain ⟨_, hv, fees, hf, hlt, c1, h1, c2, h2, rfl, rfl⟩ := h
      exact ⟨fees, rfl, by simpa using (payFees_eff h1).trans (Ctx.emit_eff h2), by omega, infos, rfl, hv, hf⟩
    | _ => simp only [ha, Res.bind_err, reduceCtorEq] at h

theorem executorHandle_eq :
    executorHandle wr φ o c t a =
      ((a.validate >>= fun _ => t.validate).mapErr fun e => "executor:validate:" ++ e) >>= fun _ =>
      if o.pausedActions.contains a.id then .err "executor:action-paused"
      else match wr.actions a.id with
        | none => .err "executor:no-controller"
        | some ctl => ctl φ c t a := by
  unfold executorHandle
  rfl

theorem executorHandle_ok {r : Ctx × TransferAttrs}
    (h : executorHandle wr φ o c t a = .ok r) :
    a.validate = .ok () ∧ t.validate = .ok () ∧ o.pausedActions.contains a.id = false ∧
      ∃ ctl, wr.actions a.id = some ctl ∧ ctl φ c t a = .ok r := by
  simp only [executorHandle_eq, Res.bind_eq_ok, Res.mapErr_eq_ok, Res.ite_err_eq_ok, Bool.not_eq_true] at h
  obtain ⟨_, ⟨_, ha, ht⟩, hp, h⟩ := h
  refine ⟨ha, ht, hp, ?_⟩
  cases hr : wr.actions a.id with
  | none => simp only [hr, reduceCtorEq] at h
  | some ctl => exact ⟨ctl, rfl, by simpa [hr] using h⟩

theorem appActionRouter_some {id : Int} {ctl : ActionCtl} (h : appActionRouter cfg id = some ctl) :
    id = ACTION_FEE ∧ ctl = feeController cfg := by
  unfold appActionRouter at h
  split at h
  · rename_i hid
    simp only [Bool.and_eq_true, beq_iff_eq] at hid
    exact ⟨hid.1, by simpa using h.symm⟩
  · cases h

theorem executorHandle_app_ok {r : Ctx × TransferAttrs} (h : executorHandle (appWiring cfg π) φ o c t a = .ok r) :
    a.id = ACTION_FEE ∧ t.validate = .ok () ∧ feeController cfg φ c t a = .ok r := by
  obtain ⟨_, ht, _, ctl, hctl, h⟩ := executorHandle_ok h
  obtain ⟨hid, rfl⟩ := appActionRouter_some hctl
  exact ⟨hid, ht, h⟩

theorem executorHandle_app_denom
    (h : executorHandle (appWiring cfg π) φ o c t a = .ok (c', t')) : t'.dstDenom = t.dstDenom := by
  obtain ⟨_, rfl, _⟩ := feeController_eff (executorHandle_app_ok h).2.2
  rfl

theorem dispatchActions_app_rec
    {P : Ctx → TransferAttrs → Ctx → TransferAttrs → Prop} (nil : ∀ c t, P c t c t)
    (cons : ∀ {c t a c1 t1 c' t'}, t.validate = .ok () → feeController cfg φ c t a = .ok (c1, t1) → P c1 t1 c' t' → P c t c' t')
    (h : dispatchActions (appWiring cfg π) φ o acts c t = .ok (c', t')) : P c t c' t' := by
  induction acts generalizing c t with
  | nil => simp only [dispatchActions, Res.ok.injEq, Prod.mk.injEq] at h; obtain ⟨rfl, rfl⟩ := h; exact nil c t
  | cons x rest ih =>
    simp only [dispatchActions] at h
    obtain ⟨⟨c1, t1⟩, hx, h⟩ := Res.bind_eq_ok.mp h
    obtain ⟨_, ht, hx⟩ := executorHandle_app_ok hx
    exact cons ht hx (ih h)

theorem dispatchActions_app_eff
    (h : dispatchActions (appWiring cfg π) φ o acts c t = .ok (c', t')) :
    t'.dstDenom = t.dstDenom ∧
    ∃ credits : List (Bytes × Int), Ctx.Eff φ c c' (credits.map fun v => .xfer cfg.orbAddr v.1 t.dstDenom v.2.toNat) [] := by
  refine dispatchActions_app_rec (P := fun c t c' t' => t'.dstDenom = t.dstDenom ∧
      ∃ credits : List (Bytes × Int), Ctx.Eff φ c c' (credits.map fun v => .xfer cfg.orbAddr v.1 t.dstDenom v.2.toNat) [])
    (fun c t => ⟨rfl, [], Ctx.Eff.refl φ c⟩) ?_ h
  intro c t a c1 t1 c' t' _ hx ⟨k, cr, e2⟩
  obtain ⟨fees, rfl, e1, _⟩ := feeController_eff hx
  exact ⟨k, fees.values ++ cr, by simpa [TransferAttrs.setDstAmount] using e1.trans e2⟩

theorem forwarderHandle_eq :
    forwarderHandle wr φ o c t f =
      ((f.validate >>= fun _ => t.validate).mapErr fun e => "forwarder:validate:" ++ e) >>= fun _ =>
      match f.attrs with
      | none => .err "forwarder:nil-attributes"
      | some a =>
        if o.pausedProtocols.contains f.protocolId then .err "forwarder:protocol-paused"
        else if !crossChainValid f.protocolId a.counterpartyID then .err "forwarder:invalid-cross-chain-id"
        else if o.pausedCrossChains.contains (f.protocolId, a.counterpartyID) then .err "forwarder:cross-chain-paused"
        else if (c.bank.bal wr.cfg.orbAddr t.dstDenom : Int) != t.dstAmount then .err "forwarder:amount-mismatch"
        else match wr.forwardings f.protocolId with
          | none => .err "forwarder:no-controller"
          | some ctl => ctl φ c t f := by
  unfold forwarderHandle
  cases f.attrs <;> rfl

/-- What the forwarder has checked before it hands over to the controller `ctl` of the route, and that controller's run. -/
structure ForwarderRun (wr : Wiring) (φ : Faults) (o : OrbState) (c : Ctx) (t : TransferAttrs) (f : Forwarding) (c' : Ctx) where
  (a : Attrs) (ctl : FwdCtl)
  fwdValid : f.validate = .ok ()
  valid : t.validate = .ok ()
  attrs : f.attrs = some a
  protocolNotPaused : o.pausedProtocols.contains f.protocolId = false
  counterpartyValid : crossChainValid f.protocolId a.counterpartyID = true
  crossChainNotPaused : o.pausedCrossChains.contains (f.protocolId, a.counterpartyID) = false
  balance : (c.bank.bal wr.cfg.orbAddr t.dstDenom : Int) = t.dstAmount
  route : wr.forwardings f.protocolId = some ctl
  run : ctl φ c t f = .ok c'

theorem forwarderHandle_ok (h : forwarderHandle wr φ o c t f = .ok c') : Nonempty (ForwarderRun wr φ o c t f c') := by
  simp only [forwarderHandle_eq, Res.bind_eq_ok, Res.mapErr_eq_ok] at h
  obtain ⟨_, ⟨_, hf, ht⟩, h⟩ := h
  cases ha : f.attrs with
  | none => simp only [ha, reduceCtorEq] at h
  | some a =>
    simp only [ha, Res.ite_err_eq_ok, Bool.not_eq_true, Bool.not_eq_false', bne_iff_ne, ne_eq, Decidable.not_not] at h
    obtain ⟨h1, h2, h3, h4, h⟩ := h
    cases hr : wr.forwardings f.protocolId with
    | none => simp only [hr, reduceCtorEq] at h
    | some ctl => exact ⟨⟨a, ctl, hf, ht, ha, h1, by simpa using h2, h3, h4, hr, by simpa [hr] using h⟩⟩

/-- What a successful forwarder run has checked of what `updateStats` looks at: the update is never skipped. -/
theorem forwarderHandle_ok_valid {wr : Wiring} {φ : Faults} {o : OrbState} {c c' : Ctx} {t : TransferAttrs} {f : Forwarding}
    (h : forwarderHandle wr φ o c t f = .ok c') :
    ∃ a, f.attrs = some a ∧ crossChainValid f.protocolId a.counterpartyID = true ∧
      crossChainValid t.srcProtocol t.srcCounterparty = true ∧ t.srcAmount > 0 ∧ t.dstAmount > 0 := by
  obtain ⟨r⟩ := forwarderHandle_ok h
  obtain ⟨h1, _, h3, _, h5⟩ := TransferAttrs.validate_ok.mp r.valid
  exact ⟨r.a, r.attrs, r.counterpartyValid, h1, h3, h5⟩

theorem appForwardingRouter_some {id : Int} {ctl : FwdCtl} (h : appForwardingRouter cfg id = some ctl) :
    (id = PROTOCOL_CCTP ∧ ctl = cctpController cfg) ∨ (id = PROTOCOL_HYPERLANE ∧ ctl = hypController cfg) ∨
    (id = PROTOCOL_INTERNAL ∧ ctl = internalController cfg) := by
  unfold appForwardingRouter at h
  obtain ⟨_, h⟩ := Option.ite_none_left_eq_some.mp h
  by_cases h1 : (id == PROTOCOL_CCTP) = true
  · rw [if_pos h1] at h; exact .inl ⟨beq_iff_eq.mp h1, (Option.some.inj h).symm⟩
  by_cases h2 : (id == PROTOCOL_HYPERLANE) = true
  · rw [if_neg h1, if_pos h2] at h; exact .inr (.inl ⟨beq_iff_eq.mp h2, (Option.some.inj h).symm⟩)
  by_cases h3 : (id == PROTOCOL_INTERNAL) = true
  · rw [if_neg h1, if_neg h2, if_pos h3] at h; exact .inr (.inr ⟨beq_iff_eq.mp h3, (Option.some.inj h).symm⟩)
  · rw [if_neg h1, if_neg h2, if_neg h3] at h; cases h

theorem hookFor_mem {e : ExtState} {ch : Bytes} {h : Hook} (hh : hookFor e ch = .ok h) : h ∈ e.hooks := by
  unfold hookFor at hh
  unfold ExtState.hooks
  split at hh
  · simp only [Res.ok.injEq] at hh; subst hh; exact List.mem_cons_self
  · split at hh
    · rename_i h' hr
      simp only [Res.ok.injEq] at hh; subst hh
      unfold resolveHook at hr
      simp only at hr
      split at hr
      · split at hr
        · simp only [Option.some.injEq] at hr; subst hr; simp
        · cases hr
      · split at hr
        · split at hr
          · cases hr
          · have := List.mem_of_getElem? hr
            simp [this]
        · cases hr
    · cases hh

theorem lookupRouter_mem {rs : List (Bytes × Nat × Nat)} {id : Bytes} {dom g : Nat} (h : lookupRouter rs id dom = some g) :
    ∃ r ∈ rs, r.2.2 = g := by
  unfold lookupRouter at h
  cases hf : rs.find? (fun r => internalId r.1 == internalId id && r.2.1 == dom) with
  | none => simp only [hf, Option.map_none, reduceCtorEq] at h
  | some r =>
    simp only [hf, Option.map_some, Option.some.injEq] at h
    exact ⟨r, List.mem_of_find?_eq_some hf, h⟩

theorem cctpDepositForBurn_eff {amount : Int} {domain : Nat} {mint caller : Bytes} {tok : String}
    (h : cctpDepositForBurn cfg c amount domain mint tok caller = .ok c') :
    Ctx.Eff φ c c' [.xfer cfg.orbAddr cfg.cctpModule tok amount.toNat, .xfer cfg.cctpModule cfg.ftfModule tok amount.toNat,
      .burn cfg.ftfModule tok amount.toNat] [] := by
  unfold cctpDepositForBurn at h
  simp only [Res.bind_err, Res.ite_err_eq_ok, Res.bind_eq_ok, Res.pure_eq, Res.ok.injEq] at h
  obtain ⟨_, _, _, _, _, _, c1, h1, _, _, _, c2, h2, c3, h3, _, _, _, rfl⟩ := h
  exact ((Ctx.send_eff h1).trans (Ctx.send_eff h2)).trans (Ctx.burn_eff h3)

/-- `pay` is the payment of a gas paymaster as post-dispatch hook: from the orbiter account, in the paymaster's own denomination
(the known finding of C11). -/
theorem warpRemoteTransfer_eff {token hook : Bytes} {domain : Nat} {amount gas feeAmt : Int} {feeDenom : String}
    (h : warpRemoteTransfer cfg c token domain amount gas feeDenom feeAmt hook = .ok c') :
    ∃ origin pay, lookupTok c.ext.hypTokens token = some origin ∧
      (pay = [] ∨ ∃ idenom charge, pay = [.xfer cfg.orbAddr cfg.hypModule idenom charge]) ∧
      Ctx.Eff φ c c' (.xfer cfg.orbAddr cfg.warpModule origin amount.toNat :: pay) [] := by
  unfold warpRemoteTransfer at h
  cases ht : lookupTok c.ext.hypTokens token with
  | none => simp only [ht, Res.bind_err, Res.pure_eq, Res.bind_ok, reduceCtorEq] at h
  | some origin =>
    simp only [ht, Res.pure_eq, Res.bind_ok] at h
    obtain ⟨c1, h1, h⟩ := Res.bind_eq_ok.mp h
    cases hr : lookupRouter c1.ext.hypRouters token domain with
    | none => simp only [hr, Res.bind_err, reduceCtorEq] at h
    | some rgas =>
      simp only [hr, Res.bind_panic, Res.ite_panic_eq_ok] at h
      obtain ⟨hk, _, h⟩ := Res.bind_eq_ok.mp h.2
      cases hk with
      | noop => cases h; exact ⟨origin, [], rfl, .inl rfl, Ctx.send_eff h1⟩
      | igp idenom idomain rate price overhead =>
        simp only [Res.ite_err_eq_ok, Res.ite_panic_eq_ok] at h
        exact ⟨origin, _, rfl, .inr ⟨idenom, _, rfl⟩, (Ctx.send_eff h1).trans (Ctx.send_eff h.2.2.2.2.2.2)⟩

theorem bankMsgSend_eff {to denom : String} {amt : Int}
    (h : bankMsgSend cfg c to denom amt = .ok c') :
    ∃ dst, accAddressFromBech32 cfg.hrp to = some dst ∧ Ctx.Eff φ c c' [.xfer cfg.orbAddr dst denom amt.toNat] [] := by
  unfold bankMsgSend at h
  cases hd : accAddressFromBech32 cfg.hrp to with
  | none => simp only [hd, reduceCtorEq] at h
  | some dst =>
    simp only [hd, Res.ite_err_eq_ok] at h
    exact ⟨dst, rfl, Ctx.send_eff h.2.2.2⟩

/-! The three forwarding controllers: the effect first, the request `r` and the attributes it is built from last, where most users
skip them with one `_`. -/

theorem cctpController_eff
    (h : cctpController cfg φ c t f = .ok c') :
    ∃ r, Ctx.Eff φ c c' [.xfer cfg.orbAddr cfg.cctpModule t.dstDenom t.dstAmount.toNat,
          .xfer cfg.cctpModule cfg.ftfModule t.dstDenom t.dstAmount.toNat, .burn cfg.ftfModule t.dstDenom t.dstAmount.toNat] [r] ∧
      ∃ domain mint caller, f.attrs = some (.cctp domain mint caller) ∧
        r = Req.cctp "orbiter" t.dstAmount domain mint t.dstDenom (if caller.isEmpty then none else some caller) := by
  unfold cctpController at h
  cases ha : f.attrs with
  | none => simp only [ha, Res.bind_err, reduceCtorEq] at h
  | some a =>
    cases a with
    | cctp domain mint caller =>
      simp only [ha, Res.pure_eq, Res.bind_ok, Res.bind_eq_ok] at h
      obtain ⟨_, _, c1, h1, h⟩ := h
      exact ⟨_, Ctx.reqCall_eff h1 (cctpDepositForBurn_eff h), domain, mint, caller, rfl, rfl⟩
    | _ => simp only [ha, Res.pure_eq, Res.bind_ok, reduceCtorEq] at h

theorem hypController_eff
    (h : hypController cfg φ c t f = .ok c') :
    ∃ pay r, (pay = [] ∨ ∃ idenom charge, pay = [.xfer cfg.orbAddr cfg.hypModule idenom charge]) ∧
      Ctx.Eff φ c c' (.xfer cfg.orbAddr cfg.warpModule t.dstDenom t.dstAmount.toNat :: pay) [r] ∧
      ∃ tok domain rec_ hook hmeta gas feeDenom feeAmt, f.attrs = some (.hyp tok domain rec_ hook hmeta gas feeDenom feeAmt) ∧
        r = Req.warp "orbiter" tok domain rec_ t.dstAmount (if hook.isEmpty then none else some hook) gas feeDenom feeAmt hmeta := by
  unfold hypController at h
  cases ha : f.attrs with
  | none => simp only [ha, Res.bind_err, Res.pure_eq, Res.bind_ok, reduceCtorEq] at h
  | some a =>
    cases a with
    | hyp tok domain rec_ hook hmeta gas feeDenom feeAmt =>
      simp only [ha, Res.pure_eq, Res.bind_ok, Res.bind_eq_ok, Res.mapErr_eq_ok] at h
      obtain ⟨_, _, _, _, c1, h1, h⟩ := h
      cases ht : lookupTok c1.ext.hypTokens tok with
      | none => simp only [ht, Res.bind_err, reduceCtorEq] at h
      | some origin =>
        simp only [ht, Res.bind_err, Res.ite_err_eq_ok, bne_iff_ne, ne_eq, Decidable.not_not] at h
        obtain ⟨rfl, h⟩ := h
        obtain ⟨c2, h2, h⟩ := Res.bind_eq_ok.mp h
        obtain ⟨origin', pay, ht', hp, hw⟩ := warpRemoteTransfer_eff (φ := φ) h
        -- the token the warp module looks up is the one the controller has compared with the attributes
        rw [(Ctx.call_eff h2).ext, ht] at ht'
        cases ht'
        exact ⟨pay, _, hp, by simpa using (Ctx.call_eff h1).trans (Ctx.reqCall_eff h2 hw),
          tok, domain, rec_, hook, hmeta, gas, feeDenom, feeAmt, rfl, rfl⟩
    | _ => simp only [ha, Res.bind_err, Res.pure_eq, Res.bind_ok, reduceCtorEq] at h

theorem internalController_eff
    (h : internalController cfg φ c t f = .ok c') :
    ∃ dst r, dst ≠ cfg.orbAddr ∧ Ctx.Eff φ c c' [.xfer cfg.orbAddr dst t.dstDenom t.dstAmount.toNat] [r] ∧
      ∃ recipient, f.attrs = some (.internal recipient) ∧ r = Req.bankSend "orbiter" recipient t.dstDenom t.dstAmount := by
  unfold internalController at h
  cases ha : f.attrs with
  | none => simp only [ha, Res.bind_err, reduceCtorEq] at h
  | some a =>
    cases a with
    | internal recipient =>
      simp only [ha, Res.pure_eq, Res.bind_ok, Res.bind_eq_ok, Res.mapErr_eq_ok] at h
      obtain ⟨_, _, _, hv, _, _, c1, h1, h⟩ := h
      obtain ⟨dst, hdst, hne⟩ := Attrs.validate_internal_ok hv
      obtain ⟨dst', hdst', hb⟩ := bankMsgSend_eff (φ := φ) h
      cases hdst.symm.trans hdst'
      exact ⟨dst, _, hne, Ctx.reqCall_eff h1 hb, recipient, rfl, rfl⟩
    | _ => simp only [ha, Res.pure_eq, Res.bind_ok, reduceCtorEq] at h

theorem forwarderHandle_app_ok
    (h : forwarderHandle (appWiring cfg π) φ o c t f = .ok c') :
    (f.protocolId = PROTOCOL_CCTP ∧ cctpController cfg φ c t f = .ok c') ∨
    (f.protocolId = PROTOCOL_HYPERLANE ∧ hypController cfg φ c t f = .ok c') ∨
    (f.protocolId = PROTOCOL_INTERNAL ∧ internalController cfg φ c t f = .ok c') := by
  obtain ⟨r⟩ := forwarderHandle_ok h
  rcases appForwardingRouter_some r.route with ⟨hid, e⟩ | ⟨hid, e⟩ | ⟨hid, e⟩
  · exact Or.inl ⟨hid, e ▸ r.run⟩
  · exact Or.inr (Or.inl ⟨hid, e ▸ r.run⟩)
  · exact Or.inr (Or.inr ⟨hid, e ▸ r.run⟩)

theorem dispatchPayload_ok {wr : Wiring} {φ : Faults} {o o' : OrbState} {c c' : Ctx} {t t' : TransferAttrs} {p : Payload}
    (h : dispatchPayload wr φ o c t p = .ok (c', t', o')) :
    ∃ c1 f, p.validate = .ok () ∧ dispatchActions wr φ o p.preActions c t = .ok (c1, t') ∧ p.forwarding = some f ∧
      forwarderHandle wr φ o c1 t' f = .ok c' ∧ o' = (updateStats o t' f).1 := by
  unfold dispatchPayload at h
  obtain ⟨_, hv, h⟩ := Res.bind_eq_ok.mp h
  obtain ⟨⟨c1, t1⟩, hd, h⟩ := Res.bind_eq_ok.mp h
  cases hf : p.forwarding with
  | none =>
    simp only [hf, Res.bind_err] at h
    cases h
  | some f =>
    simp only [hf, Res.pure_eq, Res.bind_ok] at h
    obtain ⟨c2, hfw, h⟩ := Res.bind_eq_ok.mp h
    cases h
    exact ⟨c1, f, Res.mapErr_eq_ok.mp hv, hd, rfl, hfw, rfl⟩

end

/-- An acknowledgement that is not a success commits nothing (ibc-go core discards the cached context). -/
theorem ibcRecv_error_commits_nothing (wr : Wiring) (φ : Faults) (w : World) (pkt : Packet)
    (h : (ibcRecv wr φ w pkt).ack.isSuccess = false) : (ibcRecv wr φ w pkt).world = w := by
  unfold ibcRecv at h ⊢
  simp only at h ⊢
  split
  · rename_i hs
    simp only [hs, ↓reduceIte] at h
    cases h
  · simp [RecvOut.world, ctxOf]

/-- The shape of every "refused, nothing kept" statement: it is enough to refute success. -/
theorem ibcRecv_refused {wr : Wiring} {φ : Faults} {w : World} {pkt : Packet} (h : ¬ (ibcRecv wr φ w pkt).ack.isSuccess = true) :
    (ibcRecv wr φ w pkt).ack.isSuccess = false ∧ (ibcRecv wr φ w pkt).world = w :=
  ⟨Bool.eq_false_iff.mpr h, ibcRecv_error_commits_nothing wr φ w pkt (Bool.eq_false_iff.mpr h)⟩

/-- Where an abort `s` of the middleware comes from: the adapter, ICS-20 on a foreign packet, or one of the three stages of an orbiter transfer. -/
def MwAbort (wr : Wiring) (φ : Faults) (o : OrbState) (c0 : Ctx) (pkt : Packet) (s : String) : Prop :=
  adaptPacket wr pkt = .panic s ∨ (adaptPacket wr pkt = .ok .notOrbiter ∧ ics20Recv wr.cfg c0 pkt = .panic s) ∨
  ∃ t p, adaptPacket wr pkt = .ok (.orbiter t p) ∧
    (beforeTransferHook wr φ o c0 t p = .panic s ∨ ∃ c1, beforeTransferHook wr φ o c0 t p = .ok c1 ∧
      (wrappedApp wr φ c1 pkt = .panic s ∨ ∃ c2, wrappedApp wr φ c1 pkt = .ok c2 ∧ processPayload wr φ o c2 t p = .panic s))

theorem mwOnRecv_cases (wr : Wiring) (φ : Faults) (o : OrbState) (c0 : Ctx) (pkt : Packet) :
    (∃ a, a.isSuccess = false ∧ mwOnRecv wr φ o c0 pkt = { ack := a, ctx := c0, orb := o } ∧
      ∀ s, a = .panic s → MwAbort wr φ o c0 pkt s) ∨
    (adaptPacket wr pkt = .ok .notOrbiter ∧
      ∃ c, ics20Recv wr.cfg c0 pkt = .ok c ∧ mwOnRecv wr φ o c0 pkt = { ack := .success, ctx := c, orb := o }) ∨
    (∃ t p c1 c2 c3 o', adaptPacket wr pkt = .ok (.orbiter t p) ∧ beforeTransferHook wr φ o c0 t p = .ok c1 ∧
      wrappedApp wr φ c1 pkt = .ok c2 ∧ processPayload wr φ o c2 t p = .ok (c3, o') ∧
      mwOnRecv wr φ o c0 pkt = { ack := .success, ctx := c3, orb := o' }) := by
  unfold mwOnRecv
  by_cases h1 : (!crossChainValid PROTOCOL_IBC pkt.dstChan) = true
  · rw [if_pos h1]; exact .inl ⟨_, rfl, rfl, fun _ h => nomatch h⟩
  by_cases h2 : (pkt.srcPort == "" || pkt.srcChan == "") = true
  · rw [if_neg h1, if_pos h2]; exact .inl ⟨_, rfl, rfl, fun _ h => nomatch h⟩
  by_cases h3 : (!Gen.adapterRoutes.contains PROTOCOL_IBC) = true
  · rw [if_neg h1, if_neg h2, if_pos h3]; exact .inl ⟨_, rfl, rfl, fun _ h => nomatch h⟩
  rw [if_neg h1, if_neg h2, if_neg h3]
  cases ha : adaptPacket wr pkt with
  | err e => exact .inl ⟨_, rfl, rfl, fun _ h => nomatch h⟩
  | panic s => exact .inl ⟨_, rfl, rfl, fun _ h => Ack.panic.inj h ▸ .inl ha⟩
  | ok r =>
    cases r with
    | notOrbiter =>
      simp only
      cases hi : ics20Recv wr.cfg c0 pkt with
      | ok c => exact .inr (.inl ⟨trivial, c, rfl, rfl⟩)
      | err e => exact .inl ⟨_, rfl, rfl, fun _ h => nomatch h⟩
      | panic s => exact .inl ⟨_, rfl, rfl, fun _ h => Ack.panic.inj h ▸ .inr (.inl ⟨ha, hi⟩)⟩
    | orbiter t p =>
      simp only
      cases hb : beforeTransferHook wr φ o c0 t p with
      | err e => exact .inl ⟨_, rfl, rfl, fun _ h => nomatch h⟩
      | panic s => exact .inl ⟨_, rfl, rfl, fun _ h => Ack.panic.inj h ▸ .inr (.inr ⟨t, p, ha, .inl hb⟩)⟩
      | ok c1 =>
        simp only
        cases hw : wrappedApp wr φ c1 pkt with
        | err e => exact .inl ⟨_, rfl, rfl, fun _ h => nomatch h⟩
        | panic s => exact .inl ⟨_, rfl, rfl, fun _ h => Ack.panic.inj h ▸ .inr (.inr ⟨t, p, ha, .inr ⟨c1, hb, .inl hw⟩⟩)⟩
        | ok c2 =>
          simp only
          cases hp : processPayload wr φ o c2 t p with
          | err e => exact .inl ⟨_, rfl, rfl, fun _ h => nomatch h⟩
          | panic s =>
            exact .inl ⟨_, rfl, rfl, fun _ h => Ack.panic.inj h ▸ .inr (.inr ⟨t, p, ha, .inr ⟨c1, hb, .inr ⟨c2, hw, hp⟩⟩⟩)⟩
          | ok r => exact .inr (.inr ⟨t, p, c1, c2, r.1, r.2, rfl, hb, hw, hp, rfl⟩)

theorem ibcRecv_success {wr : Wiring} {φ : Faults} {w : World} {pkt : Packet}
    (hs : (ibcRecv wr φ w pkt).ack.isSuccess = true) :
    ibcRecv wr φ w pkt = mwOnRecv wr φ w.orb (ctxOf w) pkt := by
  unfold ibcRecv stackOnRecv at hs ⊢
  cases hb : blockibcCheck (ctxOf w) pkt with
  | ok _ =>
    simp only [hb] at hs ⊢
    by_cases h : (mwOnRecv wr φ w.orb (ctxOf w) pkt).ack.isSuccess = true
    · rw [if_pos h]
    · rw [if_neg h] at hs; exact absurd hs h
  | _ => simp [hb, Ack.isSuccess] at hs

theorem ibcRecv_cases (wr : Wiring) (φ : Faults) (w : World) (pkt : Packet) :
    ((ibcRecv wr φ w pkt).ack.isSuccess = false ∧ (ibcRecv wr φ w pkt).world = w) ∨
    (adaptPacket wr pkt = .ok .notOrbiter ∧
      ∃ c, ics20Recv wr.cfg (ctxOf w) pkt = .ok c ∧ ibcRecv wr φ w pkt = { ack := .success, ctx := c, orb := w.orb }) ∨
    (∃ t p c1 c2 c3 o', adaptPacket wr pkt = .ok (.orbiter t p) ∧ beforeTransferHook wr φ w.orb (ctxOf w) t p = .ok c1 ∧
      wrappedApp wr φ c1 pkt = .ok c2 ∧ processPayload wr φ w.orb c2 t p = .ok (c3, o') ∧
      ibcRecv wr φ w pkt = { ack := .success, ctx := c3, orb := o' }) := by
  by_cases hs : (ibcRecv wr φ w pkt).ack.isSuccess = true
  · have he := ibcRecv_success hs
    rw [he] at hs ⊢
    rcases mwOnRecv_cases wr φ w.orb (ctxOf w) pkt with ⟨a, ha, h, _⟩ | h
    · rw [h, ha] at hs; cases hs
    · exact .inr h
  · exact .inl (ibcRecv_refused hs)

theorem ibcRecv_success_cases {wr : Wiring} {φ : Faults} {w : World} {pkt : Packet}
    (hs : (ibcRecv wr φ w pkt).ack.isSuccess = true) :
    (adaptPacket wr pkt = .ok .notOrbiter ∧
      ∃ c, ics20Recv wr.cfg (ctxOf w) pkt = .ok c ∧ ibcRecv wr φ w pkt = { ack := .success, ctx := c, orb := w.orb }) ∨
    (∃ t p, adaptPacket wr pkt = .ok (.orbiter t p)) := by
  rcases ibcRecv_cases wr φ w pkt with ⟨hf, _⟩ | h | ⟨t, p, _, _, _, _, ha, _⟩
  · rw [hf] at hs; cases hs
  · exact .inl h
  · exact .inr ⟨t, p, ha⟩

theorem ibcRecv_ack (wr : Wiring) (φ : Faults) (w : World) (pkt : Packet) :
    (ibcRecv wr φ w pkt).ack = (stackOnRecv wr φ w.orb (ctxOf w) pkt).ack := by
  unfold ibcRecv
  simp only
  split <;> rfl

/-- The stages of a successfully acknowledged orbiter transfer in order, with the contexts between them; `dispatch` is `actions`,
`forwarder` and the one write to the module's store (`orb`) together. -/
structure RecvStages (wr : Wiring) (φ : Faults) (w : World) (pkt : Packet) (t : TransferAttrs) (p : Payload) where
  (c1 c2 c3 c4 : Ctx) (t' : TransferAttrs) (f : Forwarding)
  hook : beforeTransferHook wr φ w.orb (ctxOf w) t p = .ok c1
  app : wrappedApp wr φ c1 pkt = .ok c2
  dispatch : dispatchPayload wr φ w.orb c2 t p = .ok (c4, t', (ibcRecv wr φ w pkt).orb)
  actions : dispatchActions wr φ w.orb p.preActions c2 t = .ok (c3, t')
  forwarding : p.forwarding = some f
  forwarder : forwarderHandle wr φ w.orb c3 t' f = .ok c4
  orb : (ibcRecv wr φ w pkt).orb = (updateStats w.orb t' f).1
  emitted : c4.emit φ "EventPayloadProcessed" = .ok (ibcRecv wr φ w pkt).ctx

theorem ibcRecv_success_stages {wr : Wiring} {φ : Faults} {w : World} {pkt : Packet} {t : TransferAttrs} {p : Payload}
    (hs : (ibcRecv wr φ w pkt).ack.isSuccess = true) (ha : adaptPacket wr pkt = .ok (.orbiter t p)) :
    Nonempty (RecvStages wr φ w pkt t p) := by
  rcases ibcRecv_cases wr φ w pkt with ⟨hf, _⟩ | ⟨hn, _⟩ | ⟨t', p', c1, c2, c5, o', ha', h1, h2, h3, he⟩
  · rw [hf] at hs; cases hs
  · cases ha.symm.trans hn
  · cases ha.symm.trans ha'
    unfold processPayload at h3
    obtain ⟨⟨c4, t4, o4⟩, hd, h⟩ := Res.bind_eq_ok.mp h3
    obtain ⟨_, hem, h⟩ := Res.bind_eq_ok.mp h
    cases h
    obtain ⟨c3, f, _, hda, hf, hfw, ho⟩ := dispatchPayload_ok hd
    have hc : (ibcRecv wr φ w pkt).ctx = c5 := by rw [he]
    have horb : (ibcRecv wr φ w pkt).orb = o' := by rw [he]
    exact ⟨⟨c1, c2, c3, c4, t4, f, h1, h2, horb ▸ hd, hda, hf, hfw, horb.trans ho, hc ▸ hem⟩⟩

theorem mwOnRecv_panic {wr : Wiring} {φ : Faults} {o : OrbState} {c0 : Ctx} {pkt : Packet} {s : String}
    (h : (mwOnRecv wr φ o c0 pkt).ack = .panic s) : MwAbort wr φ o c0 pkt s := by
  rcases mwOnRecv_cases wr φ o c0 pkt with ⟨a, _, e, hp⟩ | ⟨_, _, _, e⟩ | ⟨_, _, _, _, _, _, _, _, _, _, e⟩ <;> rw [e] at h
  · exact hp s h
  · cases h
  · cases h

theorem ibcRecv_orb_cases (wr : Wiring) (φ : Faults) (w : World) (pkt : Packet) :
    (ibcRecv wr φ w pkt).orb = w.orb ∨
    ∃ t f, t.validate = .ok () ∧ (ibcRecv wr φ w pkt).orb = (updateStats w.orb t f).1 := by
  cases hs : (ibcRecv wr φ w pkt).ack.isSuccess with
  | false => exact Or.inl (congrArg World.orb (ibcRecv_error_commits_nothing wr φ w pkt hs))
  | true =>
    rcases ibcRecv_success_cases hs with ⟨_, c, _, h⟩ | ⟨t, p, ha⟩
    · exact Or.inl (by rw [h])
    · obtain ⟨s⟩ := ibcRecv_success_stages hs ha
      obtain ⟨r⟩ := forwarderHandle_ok s.forwarder
      exact Or.inr ⟨s.t', s.f, r.valid, s.orb⟩

theorem ibcRecv_sameAdmin (wr : Wiring) (φ : Faults) (w : World) (pkt : Packet) :
    (ibcRecv wr φ w pkt).orb.sameAdmin w.orb := by
  rcases ibcRecv_orb_cases wr φ w pkt with h | ⟨t, f, _, h⟩ <;> rw [h]
  · exact OrbState.sameAdmin_refl _
  · exact updateStats_frame _ _ _

theorem forwarderHandle_congr {a b : OrbState} (wr : Wiring) (φ : Faults) (c : Ctx) (t : TransferAttrs) (f : Forwarding)
    (hp : a.pausedProtocols.contains f.protocolId = b.pausedProtocols.contains f.protocolId)
    (hc : ∀ x, f.attrs = some x →
      a.pausedCrossChains.contains (f.protocolId, x.counterpartyID) = b.pausedCrossChains.contains (f.protocolId, x.counterpartyID)) :
    forwarderHandle wr φ a c t f = forwarderHandle wr φ b c t f := by
  rw [forwarderHandle_eq, forwarderHandle_eq]
  cases hx : f.attrs with
  | none => rfl
  | some x => simp only [hp, hc x hx]

theorem executorHandle_congr {a b : OrbState} (wr : Wiring) (φ : Faults) (c : Ctx) (t : TransferAttrs) (x : Action)
    (h : a.pausedActions.contains x.id = b.pausedActions.contains x.id) :
    executorHandle wr φ a c t x = executorHandle wr φ b c t x := by
  rw [executorHandle_eq, executorHandle_eq, h]

theorem dispatchActions_congr {a b : OrbState} (wr : Wiring) (φ : Faults) (acts : List Action)
    (h : ∀ x ∈ acts, a.pausedActions.contains x.id = b.pausedActions.contains x.id) (c : Ctx) (t : TransferAttrs) :
    dispatchActions wr φ a acts c t = dispatchActions wr φ b acts c t := by
  induction acts generalizing c t with
  | nil => rfl
  | cons x rest ih =>
    simp only [dispatchActions, executorHandle_congr wr φ c t x (h x List.mem_cons_self)]
    exact Res.bind_congr fun r _ => ih (fun y hy => h y (List.mem_cons_of_mem _ hy)) r.1 r.2

theorem beforeTransferHook_congr {a b : OrbState} (wr : Wiring) (φ : Faults) (c : Ctx) (t : TransferAttrs) (p : Payload)
    (hl : a.params.getD 0 = b.params.getD 0) : beforeTransferHook wr φ a c t p = beforeTransferHook wr φ b c t p := by
  unfold beforeTransferHook
  simp only [hl]

/-- `R`: any relation between the two stores that `updateStats` respects (C17 takes `OrbState.Equiv`). -/
theorem mwOnRecv_congr {a b : OrbState} {R : OrbState → OrbState → Prop} (hR : R a b)
    (hu : ∀ t f, R (updateStats a t f).1 (updateStats b t f).1) (hl : a.params.getD 0 = b.params.getD 0)
    (hpp : ∀ q, a.pausedProtocols.contains q = b.pausedProtocols.contains q)
    (hpc : ∀ q, a.pausedCrossChains.contains q = b.pausedCrossChains.contains q)
    (hpa : ∀ q, a.pausedActions.contains q = b.pausedActions.contains q)
    (wr : Wiring) (φ : Faults) (c0 : Ctx) (pkt : Packet) :
    (mwOnRecv wr φ a c0 pkt).ack = (mwOnRecv wr φ b c0 pkt).ack ∧
    (mwOnRecv wr φ a c0 pkt).ctx = (mwOnRecv wr φ b c0 pkt).ctx ∧
    R (mwOnRecv wr φ a c0 pkt).orb (mwOnRecv wr φ b c0 pkt).orb := by
  unfold mwOnRecv
  by_cases h1 : (!crossChainValid PROTOCOL_IBC pkt.dstChan) = true
  · rw [if_pos h1, if_pos h1]
    exact ⟨rfl, rfl, hR⟩
  rw [if_neg h1, if_neg h1]
  by_cases h2 : (pkt.srcPort == "" || pkt.srcChan == "") = true
  · rw [if_pos h2, if_pos h2]
    exact ⟨rfl, rfl, hR⟩
  rw [if_neg h2, if_neg h2]
  by_cases h3 : (!Gen.adapterRoutes.contains PROTOCOL_IBC) = true
  · rw [if_pos h3, if_pos h3]
    exact ⟨rfl, rfl, hR⟩
  rw [if_neg h3, if_neg h3]
  -- from here on a stage that fails ends the run with the inputs unchanged: the last alternative of each `cases`
  cases adaptPacket wr pkt with
  | ok r =>
    cases r with
    | notOrbiter =>
      simp only
      cases ics20Recv wr.cfg c0 pkt <;> exact ⟨rfl, rfl, hR⟩
    | orbiter t p =>
      simp only
      rw [beforeTransferHook_congr wr φ c0 t p hl]
      cases beforeTransferHook wr φ b c0 t p with
      | ok c1 =>
        simp only
        cases wrappedApp wr φ c1 pkt with
        | ok c2 =>
          simp only
          unfold processPayload dispatchPayload
          simp only [dispatchActions_congr wr φ p.preActions (fun x _ => hpa x.id)]
          cases p.validate with
          | ok u =>
            simp only [Res.mapErr, Res.bind_ok]
            cases dispatchActions wr φ b p.preActions c2 t with
            | ok r1 =>
              obtain ⟨c3, t3⟩ := r1
              simp only [Res.bind_ok]
              cases p.forwarding with
              | none => exact ⟨rfl, rfl, hR⟩
              | some f =>
                simp only [Res.pure_eq, Res.bind_ok, forwarderHandle_congr wr φ c3 t3 f (hpp _) fun _ _ => hpc _]
                cases forwarderHandle wr φ b c3 t3 f with
                | ok c4 =>
                  simp only [Res.bind_ok]
                  cases c4.emit φ "EventPayloadProcessed" with
                  | ok c5 => exact ⟨rfl, rfl, hu t3 f⟩
                  | _ => exact ⟨rfl, rfl, hR⟩
                | _ => exact ⟨rfl, rfl, hR⟩
            | _ => exact ⟨rfl, rfl, hR⟩
          | _ => exact ⟨rfl, rfl, hR⟩
        | _ => exact ⟨rfl, rfl, hR⟩
      | _ => exact ⟨rfl, rfl, hR⟩
  | _ => exact ⟨rfl, rfl, hR⟩

end Orbiter
