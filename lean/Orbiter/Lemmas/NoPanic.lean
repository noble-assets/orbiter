/-
  Where a panic can come from (C14). `r.PanicsIn P`: if `r` is a panic, its site satisfies `P`.
  The leaf decoders live in `Dec` and cannot panic by construction; the only panic of the parser is the
  generated marshaller's on a nil element of `fees_info`, excluded by the null-in-array pre-check
  (`nullInArray_hereditary` carries the pre-check from the memo's tree down to that array).
-/
import Orbiter.Lemmas.NpAttr
import Orbiter.Recv
import Orbiter.Lemmas.Jsonpb
namespace Orbiter

def Res.PanicsIn {α} (P : String → Prop) (r : Res α) : Prop := ∀ s, r = .panic s → P s

abbrev Res.NoPanic {α} (r : Res α) : Prop := r.PanicsIn (fun _ => False)

namespace Res

theorem PanicsIn.ok {α} {P : String → Prop} (a : α) : (Res.ok a).PanicsIn P := fun _ h => by cases h
theorem PanicsIn.err {α} {P : String → Prop} (e : String) : (Res.err e : Res α).PanicsIn P := fun _ h => by cases h
theorem PanicsIn.pure {α} {P : String → Prop} (a : α) : (Pure.pure a : Res α).PanicsIn P := fun _ h => by cases h

theorem PanicsIn.toRes {α} {P : String → Prop} (d : Dec α) : d.toRes.PanicsIn P :=
  fun s h => absurd h (Dec.toRes_ne_panic d s)

/-! The simp set `np`: `PanicsIn` constructor by constructor, and every function shown never to panic without a hypothesis (here
and in `Props/C14.lean`). `simp only [f, np]` leaves the conditions under which a `panic` leaf of `f` is reached. No rule for a
`match` (case first) nor for `Res.map`, `Dec.toRes`, `allM`, `mapM`: there the introduction rules below are applied as terms. -/

@[np] theorem PanicsIn.ok_iff {α} {P : String → Prop} (a : α) : (Res.ok a).PanicsIn P ↔ True := iff_true_intro (PanicsIn.ok a)
@[np] theorem PanicsIn.err_iff {α} {P : String → Prop} (e : String) : (Res.err e : Res α).PanicsIn P ↔ True := iff_true_intro (PanicsIn.err e)

@[np] theorem PanicsIn.panic_iff {α} {P : String → Prop} (s : String) : (Res.panic s : Res α).PanicsIn P ↔ P s :=
  ⟨fun h => h s rfl, fun h s' e => by cases e; exact h⟩

@[np] theorem PanicsIn.bind_iff {α β} {P : String → Prop} {x : Res α} {f : α → Res β} :
    (x >>= f).PanicsIn P ↔ x.PanicsIn P ∧ ∀ a, x = .ok a → (f a).PanicsIn P := by
  cases x <;> simp [PanicsIn]

@[np] theorem PanicsIn.ite_iff {α} {P : String → Prop} {c : Prop} [Decidable c] {a b : Res α} :
    (if c then a else b).PanicsIn P ↔ (c → a.PanicsIn P) ∧ (¬ c → b.PanicsIn P) := by
  by_cases h : c <;> simp [h]

@[np] theorem PanicsIn.mapErr_iff {α} {P : String → Prop} {x : Res α} (f : String → String) :
    (x.mapErr f).PanicsIn P ↔ x.PanicsIn P := by
  cases x <;> simp [PanicsIn, Res.mapErr]


theorem PanicsIn.bind {α β} {P : String → Prop} {x : Res α} {f : α → Res β}
    (h1 : x.PanicsIn P) (h2 : ∀ a, x = .ok a → (f a).PanicsIn P) : (x >>= f).PanicsIn P :=
  bind_iff.mpr ⟨h1, h2⟩

theorem PanicsIn.bind_toRes {α β} {P : String → Prop} {d : Dec α} {f : α → Res β} (h : ∀ a, (f a).PanicsIn P) :
    (d.toRes >>= f).PanicsIn P :=
  .bind (.toRes d) (fun a _ => h a)

/-- Every message decoder starts by opening its object: that step cannot panic, and `Q` passes to the values of the fields. -/
theorem PanicsIn.bind_asObject {Q : Json → Prop} (hQ : Json.Hereditary Q) {β} {P : String → Prop} {j : Json} (hj : Q j)
    {f : Fields → Res β} (h : ∀ fs, FieldsAll Q fs → (f fs).PanicsIn P) : ((asObject j).toRes >>= f).PanicsIn P :=
  .bind (.toRes _) fun fs hfs => h fs (asObject_toRes_all hQ hj hfs)

theorem PanicsIn.ite {α} {P : String → Prop} {c : Prop} [Decidable c] {a b : Res α}
    (ha : c → a.PanicsIn P) (hb : ¬ c → b.PanicsIn P) : (if c then a else b).PanicsIn P :=
  ite_iff.mpr ⟨ha, hb⟩

theorem PanicsIn.mapErr {α} {P : String → Prop} {x : Res α} (f : String → String) (h : x.PanicsIn P) : (x.mapErr f).PanicsIn P :=
  (mapErr_iff f).mpr h

theorem PanicsIn.map {α β} {P : String → Prop} {x : Res α} (f : α → β) (h : x.PanicsIn P) : (x.map f).PanicsIn P := by
  cases x <;> simp_all [PanicsIn, Res.map]

theorem PanicsIn.ite_err {α} {P : String → Prop} {c : Prop} [Decidable c] {e : String} {r : Res α} (h : r.PanicsIn P) :
    (if c then (Res.err e : Res α) else r).PanicsIn P :=
  .ite (fun _ => .err e) (fun _ => h)

theorem PanicsIn.allM {α} {P : String → Prop} {f : α → Res Unit} {l : List α} (h : ∀ a ∈ l, (f a).PanicsIn P) :
    (Res.allM f l).PanicsIn P := by
  induction l with
  | nil => exact .ok ()
  | cons x xs ih =>
    simp only [Res.allM]
    exact .bind (h x List.mem_cons_self) (fun _ _ => ih (fun a ha => h a (List.mem_cons_of_mem _ ha)))

theorem PanicsIn.mapM {α β} {P : String → Prop} {f : α → Res β} {l : List α} (h : ∀ a ∈ l, (f a).PanicsIn P) :
    (l.mapM f).PanicsIn P := by
  induction l with
  | nil => simp only [List.mapM_nil]; exact .pure []
  | cons x xs ih =>
    rw [List.mapM_cons]
    exact .bind (h x List.mem_cons_self) (fun _ _ => .bind (ih (fun a ha => h a (List.mem_cons_of_mem _ ha))) (fun _ _ => .pure _))

theorem NoPanic.err_of_ne_ok {α} {r : Res α} (h : r.NoPanic) (hne : ∀ a, r ≠ .ok a) : ∃ t, r = .err t := by
  cases r with
  | ok a => exact (hne a rfl).elim
  | err t => exact ⟨t, rfl⟩
  | panic s => exact (h s rfl).elim

end Res

attribute [np] Res.bind_ok Res.bind_err Res.bind_panic Res.pure_eq implies_true and_self and_true true_and

/-- The one panic of the parser is unreachable once no array of the memo holds a `null`. -/
theorem decFee_noPanic (π : OneofOrder) {fs : Fields} (h : FieldsAll (·.nullInArray = false) fs) : (decFee π fs).NoPanic := by
  unfold decFee
  simp only
  refine .bind (.toRes _) fun infos hinfos => .bind_toRes fun _ => ?_
  have hnone : infos.any Option.isNone = false := by
    cases hf : (takeField fs "fees_info" "feesInfo").1 with
    | none => rw [hf] at hinfos; cases hinfos; rfl
    | some v => rw [hf] at hinfos; exact decRepeated_no_none (h.takeField_val hf) (Dec.toRes_eq_ok.mp hinfos)
  simp only [hnone, Bool.false_eq_true, ↓reduceIte]
  exact .pure _

theorem decAny_noPanic (π : OneofOrder) (j : Json) (hj : j.nullInArray = false) : (decAny π j).NoPanic := by
  unfold decAny
  cases j with
  | obj fs =>
    simp only
    cases Json.lookupLast fs "@type" with
    | none => exact .err _
    | some t =>
      cases t with
      | str url p =>
        -- three attribute types decoded in `Dec`, the fee attributes, an unknown type
        exact .ite (fun _ => .toRes _) fun _ => .ite (fun _ => .toRes _) fun _ => .ite (fun _ => .toRes _) fun _ =>
          .ite (fun _ => .map _ (decFee_noPanic π ((nullInArray_hereditary.obj hj).eraseKey "@type"))) fun _ => .err _
      | _ => exact .err _
  | null => exact .ok _
  | _ => exact .err _

theorem decAction_noPanic (π : OneofOrder) (j : Json) (hj : j.nullInArray = false) : (decAction π j).NoPanic := by
  unfold decAction
  refine .bind_asObject nullInArray_hereditary hj fun fs hF => ?_
  simp only
  refine .bind_toRes fun id => ?_
  cases ha : (takeField (takeField fs "id" "id").2 "attributes" "attributes").1 with
  | none => exact .bind (.pure _) fun _ _ => .bind_toRes fun _ => .pure _
  | some v => exact .bind (decAny_noPanic π v (hF.takeField_rest.takeField_val ha)) fun _ _ => .bind_toRes fun _ => .pure _

theorem decForwarding_noPanic (π : OneofOrder) (j : Json) (hj : j.nullInArray = false) : (decForwarding π j).NoPanic := by
  unfold decForwarding
  refine .bind_asObject nullInArray_hereditary hj fun fs hF => ?_
  simp only
  refine .bind_toRes fun pid => ?_
  cases ha : (takeField (takeField fs "protocol_id" "protocolId").2 "attributes" "attributes").1 with
  | none => exact .bind (.pure _) fun _ _ => .bind_toRes fun _ => .bind_toRes fun _ => .pure _
  | some v => exact .bind (decAny_noPanic π v (hF.takeField_rest.takeField_val ha)) fun _ _ => .bind_toRes fun _ => .bind_toRes fun _ => .pure _

theorem decRepeatedR_noPanic {Q : Json → Prop} (hQ : Json.Hereditary Q) {α} {dec : Json → Res α} {j : Json} (hj : Q j)
    (hdec : ∀ x, Q x → (dec x).NoPanic) : (decRepeatedR dec j).NoPanic := by
  cases j with
  | arr items =>
    rw [decRepeatedR_arr]
    exact .mapM fun it hit => .ite (fun _ => .ok _) fun _ => .map _ (hdec it (hQ.arr hj it hit))
  | null => exact .ok _
  | _ => exact .err _

theorem decPayload_noPanic (π : OneofOrder) (j : Json) (hj : j.nullInArray = false) : (decPayload π j).NoPanic := by
  rw [decPayload_eq]
  refine .bind_asObject nullInArray_hereditary hj fun fs hF => ?_
  refine .bind ?_ fun acts _ => .bind ?_ fun fwd _ => .bind_toRes fun _ => .pure _
  · cases hpa : (takeField fs "pre_actions" "preActions").1 with
    | none => exact .pure _
    | some v => exact decRepeatedR_noPanic nullInArray_hereditary (hF.takeField_val hpa) (decAction_noPanic π)
  · cases hfw : (takeField (takeField fs "pre_actions" "preActions").2 "forwarding" "forwarding").1 with
    | none => exact .pure _
    | some v => exact .ite (fun _ => .pure _) fun _ => .map _ (decForwarding_noPanic π v (hF.takeField_rest.takeField_val hfw))

theorem decOrbiterValue_noPanic (π : OneofOrder) (o : Option Json) (h : ∀ v, o = some v → v.nullInArray = false) :
    (decOrbiterValue π o).NoPanic := by
  cases o with
  | none => exact .err _
  | some v =>
    rw [decOrbiterValue_some]
    exact .ite (fun _ => .err _) fun _ => decPayload_noPanic π v (h v rfl)

@[np] theorem checkActionFamily_noPanic (a : Option Action) : (checkActionFamily a).NoPanic := by
  rcases a with _ | ⟨id, _ | at_⟩ <;> simp only [checkActionFamily, np]

@[np] theorem checkForwardingFamily_noPanic (f : Option Forwarding) : (checkForwardingFamily f).NoPanic := by
  rcases f with _ | ⟨pid, _ | at_, pass⟩ <;> simp only [checkForwardingFamily, np]

theorem decWrapper_noPanic (π : OneofOrder) (j : Json) (hj : j.nullInArray = false) : (decWrapper π j).NoPanic := by
  unfold decWrapper unpackInterfaces
  refine .bind_asObject nullInArray_hereditary hj fun fs hF => ?_
  exact .bind (decOrbiterValue_noPanic π _ fun _ => hF.takeField_val) fun p _ => .bind_toRes fun _ =>
    .bind (.allM fun a _ => checkActionFamily_noPanic a) fun _ _ => .bind (checkForwardingFamily_noPanic _) fun _ _ => .pure _

@[np] theorem Ctx.call_panicsIn {P : String → Prop} (φ : Faults) (c : Ctx) (site : String) : (Ctx.call φ c site).PanicsIn P := by
  simp only [Ctx.call, np]

@[np] theorem Ctx.send_panicsIn {P : String → Prop} (c : Ctx) (a b : Addr) (d tag : String) (n : Nat) : (c.send a b d n tag).PanicsIn P := by
  unfold Ctx.send
  cases c.bank.send a b d n <;> simp only [np]

@[np] theorem Ctx.burn_panicsIn {P : String → Prop} (c : Ctx) (a : Addr) (d tag : String) (n : Nat) : (c.burn a d n tag).PanicsIn P := by
  unfold Ctx.burn
  cases c.bank.burn a d n <;> simp only [np]

@[np] theorem Ctx.emit_panicsIn {P : String → Prop} (φ : Faults) (c : Ctx) (ev : String) : (c.emit φ ev).PanicsIn P := by
  simp only [Ctx.emit, np]

@[np] theorem newCoin_panicsIn {P : String → Prop} (d : String) (a : Int) (site : String) :
    (newCoin d a site).PanicsIn P ↔ (coinValid d a = false → P site) := by
  unfold newCoin
  cases coinValid d a <;> simp [np]

@[np] theorem computeFeeAmount_noPanic (A : Int) (b : Nat) : (computeFeeAmount A b).NoPanic := by
  simp only [computeFeeAmount, np]

@[np] theorem payFees_noPanic (φ : Faults) (orb : Addr) (d : String) (l : List (Bytes × Int)) (c : Ctx) : (payFees φ orb d l c).NoPanic := by
  induction l generalizing c with
  | nil => exact Res.PanicsIn.ok _
  | cons v rest ih => simp only [payFees, np, ih]

@[np] theorem cctpDepositForBurn_noPanic (cfg : Cfg) (c : Ctx) (amount : Int) (domain : Nat) (mint caller : Bytes) (tok : String) :
    (cctpDepositForBurn cfg c amount domain mint tok caller).NoPanic := by
  simp only [cctpDepositForBurn, np]

@[np] theorem bankMsgSend_noPanic (cfg : Cfg) (c : Ctx) (to denom : String) (amt : Int) : (bankMsgSend cfg c to denom amt).NoPanic := by
  unfold bankMsgSend
  cases accAddressFromBech32 cfg.hrp to <;> simp only [np]

@[np] theorem hookFor_noPanic (e : ExtState) (h : Bytes) : (hookFor e h).NoPanic := by
  unfold hookFor
  cases resolveHook e h <;> simp only [np]

@[np] theorem TransferAttrs.validate_noPanic (t : TransferAttrs) : t.validate.NoPanic := by
  simp only [TransferAttrs.validate, np]

@[np] theorem Action.validate_noPanic (a : Action) : a.validate.NoPanic := by
  simp only [Action.validate, np]

@[np] theorem Forwarding.validate_noPanic (f : Forwarding) : f.validate.NoPanic := by
  simp only [Forwarding.validate, np]

@[np] theorem FeeInfo.validate_noPanic (hrp : String) (f : FeeInfo) : (FeeInfo.validate hrp f).NoPanic := by
  simp only [FeeInfo.validate, FeeInfo.checkType, FeeInfo.checkRecipient, np]
  refine ⟨?_, fun _ _ => ?_⟩
  · split
    · exact .err _
    · split <;> simp only [np]
    · simp only [np]
  · split <;> simp only [np]

@[np] theorem validateFeeAttrs_noPanic (hrp : String) (infos : List FeeInfo) : (validateFeeAttrs hrp infos).NoPanic := by
  unfold validateFeeAttrs
  exact .ite_err (.allM fun f _ => FeeInfo.validate_noPanic hrp f)

@[np] theorem Attrs.validate_noPanic (hrp : String) (orb : Bytes) (a : Attrs) : (a.validate hrp orb).NoPanic := by
  cases a with
  | internal r => simp only [Attrs.validate, np]; intro _; split <;> simp only [np]
  | fee infos => exact validateFeeAttrs_noPanic hrp infos
  | _ => simp only [Attrs.validate, np]

@[np] theorem RawPayload.validate_noPanic (p : RawPayload) : (RawPayload.validate p).NoPanic := by
  unfold RawPayload.validate
  refine .ite_err (.ite_err (.bind (.allM fun a _ => Action.validate_noPanic a) fun _ _ => ?_))
  cases p.forwarding with
  | none => exact .err _
  | some f => exact .bind (Forwarding.validate_noPanic f) fun _ _ => .pure _

@[np] theorem Payload.validate_noPanic (p : Payload) : p.validate.NoPanic := by
  unfold Payload.validate
  refine .ite_err (.bind (.allM fun a _ => Action.validate_noPanic a) fun _ _ => ?_)
  cases p.forwarding with
  | none => exact .err _
  | some f => exact Forwarding.validate_noPanic f

@[np] theorem parsePayload_noPanic (π : OneofOrder) (memo : Bytes) : (parsePayload π memo).NoPanic := by
  unfold parsePayload
  cases parseJsonWhole memo with
  | none => exact .err _
  | some j =>
    refine .ite_err ?_
    cases j with
    | obj fs =>
      refine .ite_err ?_
      cases Json.lookupLast fs Gen.orbiterPrefix with
      | none => exact .err _
      | some v =>
        cases v with
        | null => exact .err _
        | _ =>
          exact .ite (fun _ => .err _) fun hn => .ite_err
            (.bind (.mapErr _ (decWrapper_noPanic π _ (by simpa using hn))) fun p _ => RawPayload.validate_noPanic p)
    | _ => exact .err _

end Orbiter
