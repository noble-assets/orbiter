/-
  Lemmas about the module's own collections: ordered key sets (`insertBy` / `erase` / `sortBy`: insertion permutes, and so does a
  fold of insertions from any start, `perm_foldl_insertBy`), ordered maps (`upsert` / `lookupD`). The statistics update: its two
  writes as equations (`addAmount_some`, `addCount_eq`), the one or two entries it adds (`buildDispatched_cases`), the two ways it
  can go (`updateStats_cases`), and one walk of it as an induction principle (`updateStats_ind`), whose instance here is what the
  receive path may write (`updateStats_frame`: only the two statistics maps).
-/
import Orbiter.Admin
import Orbiter.Lemmas.Res
namespace Orbiter

/-- Insertion puts the element somewhere: membership, absence of duplicates and length go through this. -/
theorem perm_insertBy {α} (lt : α → α → Bool) (x : α) (l : List α) : (insertBy lt x l).Perm (x :: l) := by
  induction l with
  | nil => exact .refl _
  | cons z zs ih =>
    simp only [insertBy]
    split
    · exact .refl _
    · exact (ih.cons z).trans (.swap x z zs)

theorem mem_insertBy {α} (lt : α → α → Bool) {x y : α} {l : List α} : y ∈ insertBy lt x l ↔ y = x ∨ y ∈ l := by
  rw [(perm_insertBy lt x l).mem_iff, List.mem_cons]

theorem forall_mem_insertBy {α} (lt : α → α → Bool) {V : α → Prop} {x : α} {l : List α} (hx : V x) (hl : ∀ y ∈ l, V y) :
    ∀ y ∈ insertBy lt x l, V y :=
  fun y hy => ((mem_insertBy lt).mp hy).elim (· ▸ hx) (hl y)

theorem contains_insertBy {α} [BEq α] [LawfulBEq α] (lt : α → α → Bool) {x y : α} {l : List α} :
    (insertBy lt x l).contains y = (y == x || l.contains y) := by
  rw [Bool.eq_iff_iff]; simp [mem_insertBy]

theorem nodup_insertBy {α} (lt : α → α → Bool) {x : α} {l : List α} (hx : x ∉ l) (hl : l.Nodup) :
    (insertBy lt x l).Nodup :=
  (perm_insertBy lt x l).nodup_iff.mpr (List.nodup_cons.mpr ⟨hx, hl⟩)

theorem contains_erase_of_nodup {α} [BEq α] [LawfulBEq α] {x y : α} {l : List α} (hl : l.Nodup) :
    (l.erase x).contains y = (l.contains y && !(y == x)) := by
  rw [Bool.eq_iff_iff]
  simp [hl.mem_erase_iff, and_comm]

theorem mem_iff_of_contains {α} [BEq α] [LawfulBEq α] {l₁ l₂ : List α} (h : ∀ q, l₁.contains q = l₂.contains q) (x : α) : x ∈ l₁ ↔ x ∈ l₂ := by
  rw [← List.contains_iff_mem, ← List.contains_iff_mem, h]

theorem sortBy_eq_foldl {α} (lt : α → α → Bool) (l : List α) : sortBy lt l = l.foldl (fun a x => insertBy lt x a) [] := rfl

theorem perm_foldl_insertBy {α} (lt : α → α → Bool) (l acc : List α) :
    (l.foldl (fun a x => insertBy lt x a) acc).Perm (l ++ acc) := by
  induction l generalizing acc with
  | nil => exact .refl _
  | cons x rest ih => exact (ih _).trans (((perm_insertBy lt x acc).append_left rest).trans List.perm_middle)

theorem perm_sortBy {α} (lt : α → α → Bool) (l : List α) : (sortBy lt l).Perm l := by
  have := perm_foldl_insertBy lt l []
  rwa [List.append_nil, ← sortBy_eq_foldl] at this

theorem mem_sortBy {α} (lt : α → α → Bool) {l : List α} {y : α} : y ∈ sortBy lt l ↔ y ∈ l := (perm_sortBy lt l).mem_iff

theorem nodup_sortBy {α} (lt : α → α → Bool) {l : List α} (hl : l.Nodup) : (sortBy lt l).Nodup := (perm_sortBy lt l).nodup_iff.mpr hl

theorem contains_sortBy {α} [BEq α] [LawfulBEq α] (lt : α → α → Bool) (l : List α) (q : α) : (sortBy lt l).contains q = l.contains q := by
  rw [Bool.eq_iff_iff, List.contains_iff_mem, List.contains_iff_mem, mem_sortBy]

theorem find?_insertBy_of_neg {α} (lt : α → α → Bool) (p : α → Bool) {x : α} (hx : p x = false) (l : List α) :
    (insertBy lt x l).find? p = l.find? p := by
  induction l with
  | nil => simp [insertBy, hx]
  | cons a as ih =>
    simp only [insertBy]
    split
    · simp [List.find?_cons, hx]
    · simp only [List.find?_cons, ih]

theorem find?_insertBy_of_pos {α} (lt : α → α → Bool) (p : α → Bool) {x : α} (hx : p x = true) {l : List α} (hl : ∀ y ∈ l, p y = false) :
    (insertBy lt x l).find? p = some x := by
  induction l with
  | nil => simp [insertBy, hx]
  | cons a as ih =>
    simp only [insertBy]
    split
    · simp [hx]
    · simp only [List.find?_cons, hl a List.mem_cons_self]
      exact ih fun y hy => hl y (List.mem_cons_of_mem _ hy)

abbrev keyLt {κ ν} (lt : κ → κ → Bool) (a b : κ × ν) : Bool := lt a.1 b.1

theorem upsert_ins_eq {κ ν} (lt : κ → κ → Bool) (k : κ) (v : ν) (l : List (κ × ν)) :
    upsert.ins lt k v l = insertBy (keyLt lt) (k, v) l := by
  induction l with
  | nil => rfl
  | cons e rest ih => simp only [upsert.ins, insertBy, ih]

theorem any_key_iff {κ ν} [DecidableEq κ] {m : List (κ × ν)} {k : κ} : m.any (·.1 == k) = true ↔ k ∈ m.map (·.1) := by
  simp only [List.any_eq_true, beq_iff_eq, List.mem_map]

theorem upsert_of_not_mem {κ ν} [DecidableEq κ] (lt : κ → κ → Bool) {m : List (κ × ν)} {k : κ} (v : ν) (hk : k ∉ m.map (·.1)) :
    upsert lt m k v = insertBy (keyLt lt) (k, v) m := by
  rw [upsert, if_neg (mt any_key_iff.mp hk), upsert_ins_eq]

theorem upsert_of_mem {κ ν} [DecidableEq κ] (lt : κ → κ → Bool) {m : List (κ × ν)} {k : κ} (v : ν) (hk : k ∈ m.map (·.1)) :
    upsert lt m k v = m.map fun e => if e.1 == k then (k, v) else e := by
  rw [upsert, if_pos (any_key_iff.mpr hk)]

theorem fst_ite_replace {κ ν} [DecidableEq κ] (k : κ) (v : ν) (e : κ × ν) : (if (e.1 == k) = true then (k, v) else e).1 = e.1 := by
  split
  · rename_i h
    exact (beq_iff_eq.mp h).symm
  · rfl

theorem keys_map_replace {κ ν} [DecidableEq κ] (k : κ) (v : ν) (l : List (κ × ν)) :
    (l.map fun e => if (e.1 == k) = true then (k, v) else e).map (·.1) = l.map (·.1) := by
  rw [List.map_map]
  exact List.map_congr_left fun e _ => fst_ite_replace k v e

theorem map_insertBy {α β} (lt : β → β → Bool) (f : α → β) (x : α) (l : List α) :
    (insertBy (fun a b => lt (f a) (f b)) x l).map f = insertBy lt (f x) (l.map f) := by
  induction l with
  | nil => rfl
  | cons y ys ih =>
    simp only [insertBy, List.map_cons]
    split <;> simp [ih]

theorem keys_upsert {κ ν} [DecidableEq κ] (lt : κ → κ → Bool) (m : List (κ × ν)) (k : κ) (v : ν) :
    (upsert lt m k v).map (·.1) = if k ∈ m.map (·.1) then m.map (·.1) else insertBy lt k (m.map (·.1)) := by
  split
  · rename_i hk
    rw [upsert_of_mem lt v hk, keys_map_replace]
  · rename_i hk
    rw [upsert_of_not_mem lt v hk]
    exact map_insertBy lt (·.1) (k, v) m

theorem nodup_keys_upsert {κ ν} [DecidableEq κ] (lt : κ → κ → Bool) {m : List (κ × ν)} {k : κ} {v : ν}
    (hn : (m.map (·.1)).Nodup) : ((upsert lt m k v).map (·.1)).Nodup := by
  rw [keys_upsert]
  split
  · exact hn
  · rename_i hk
    exact nodup_insertBy lt hk hn

theorem mem_upsert_cases {κ ν} [DecidableEq κ] (lt : κ → κ → Bool) {m : List (κ × ν)} {k : κ} {v : ν} {e : κ × ν}
    (h : e ∈ upsert lt m k v) : e = (k, v) ∨ e ∈ m := by
  by_cases hk : k ∈ m.map (·.1)
  · rw [upsert_of_mem lt v hk] at h
    obtain ⟨a, ha, rfl⟩ := List.mem_map.mp h
    split
    · exact Or.inl rfl
    · exact Or.inr ha
  · rw [upsert_of_not_mem lt v hk] at h
    exact (mem_insertBy _).mp h

theorem lookupD_upsert {κ ν} [DecidableEq κ] (lt : κ → κ → Bool) (m : List (κ × ν)) (k k' : κ) (v d : ν) :
    lookupD (upsert lt m k v) k' d = if k' = k then v else lookupD m k' d := by
  by_cases hk : k ∈ m.map (·.1)
  · -- present: the entry found under `k'` is the old one, its value replaced if `k' = k`
    rw [upsert_of_mem lt v hk]
    simp only [lookupD, List.find?_map, Function.comp_def, fst_ite_replace]
    cases hf : m.find? (fun x => x.1 == k') with
    | none =>
      have hne : k' ≠ k := by
        rintro rfl
        obtain ⟨e, he, rfl⟩ := List.mem_map.mp hk
        exact absurd (List.find?_eq_none.mp hf e he) (by simp)
      simp [hne]
    | some e =>
      have hk : e.1 = k' := by simpa using List.find?_some hf
      by_cases h : k' = k <;> simp [hk, h]
  · rw [upsert_of_not_mem lt v hk]
    unfold lookupD
    by_cases h : k' = k
    · rw [find?_insertBy_of_pos _ _ (by simp [h]) fun y hy => by simpa [h] using fun e : y.1 = k => hk (e ▸ List.mem_map_of_mem hy),
        if_pos h]
    · rw [find?_insertBy_of_neg _ _ (by simpa using Ne.symm h), if_neg h]

theorem lookupD_of_mem {κ ν} [DecidableEq κ] {m : List (κ × ν)} (hn : (m.map (·.1)).Nodup) {e : κ × ν} (he : e ∈ m) (d : ν) :
    lookupD m e.1 d = e.2 := by
  induction m with
  | nil => cases he
  | cons a as ih =>
    obtain ⟨hna, hn⟩ := List.nodup_cons.mp hn
    rw [lookupD, List.find?_cons]
    rcases List.mem_cons.mp he with rfl | hm
    · simp
    · have : (a.1 == e.1) = false := by simpa using fun h : a.1 = e.1 => hna (List.mem_map.mpr ⟨e, hm, h.symm⟩)
      rw [this]
      exact ih hn hm

theorem lookupD_of_not_mem {κ ν} [DecidableEq κ] (m : List (κ × ν)) (k : κ) (hk : k ∉ m.map (·.1)) (d : ν) :
    lookupD m k d = d := by
  have : m.find? (fun x => x.1 == k) = none :=
    List.find?_eq_none.mpr fun x hx => by simpa using fun h : x.1 = k => hk (h ▸ List.mem_map_of_mem hx)
  rw [lookupD, this]

theorem lookupD_perm {κ ν} [DecidableEq κ] {m m' : List (κ × ν)} (hp : m.Perm m') (hn : (m.map (·.1)).Nodup) (k : κ) (d : ν) :
    lookupD m k d = lookupD m' k d := by
  by_cases hk : k ∈ m.map (·.1)
  · obtain ⟨e, he, rfl⟩ := List.mem_map.mp hk
    rw [lookupD_of_mem hn he, lookupD_of_mem ((hp.map (·.1)).nodup_iff.mp hn) (hp.mem_iff.mp he)]
  · rw [lookupD_of_not_mem m k hk, lookupD_of_not_mem m' k (fun h => hk ((hp.map (·.1)).mem_iff.mpr h))]

theorem lookupD_mem_or_default {κ ν} [DecidableEq κ] (m : List (κ × ν)) (k : κ) (d : ν) :
    lookupD m k d = d ∨ ∃ e ∈ m, e.1 = k ∧ e.2 = lookupD m k d := by
  unfold lookupD
  cases h : m.find? (fun x => x.1 == k) with
  | none => exact Or.inl rfl
  | some e =>
    right
    have hm := List.mem_of_find?_eq_some h
    have hk := List.find?_some h
    exact ⟨e, hm, by simpa using hk, rfl⟩

/-- Rebuilding a map with unique keys entry by entry sorts its entries by key: every key is fresh when its turn comes. -/
theorem foldl_upsert_eq_sortBy {κ ν} [DecidableEq κ] (lt : κ → κ → Bool) {l : List (κ × ν)} (hn : (l.map (·.1)).Nodup) :
    l.foldl (fun a e => upsert lt a e.1 e.2) [] = sortBy (keyLt lt) l := by
  have key : ∀ (l acc : List (κ × ν)), ((l ++ acc).map (·.1)).Nodup →
      l.foldl (fun a e => upsert lt a e.1 e.2) acc = l.foldl (fun a e => insertBy (keyLt lt) e a) acc := by
    intro l
    induction l with
    | nil => exact fun _ _ => rfl
    | cons e rest ih =>
      intro acc hn
      simp only [List.cons_append, List.map_cons, List.nodup_cons, List.map_append, List.mem_append, not_or] at hn
      rw [List.foldl_cons, List.foldl_cons, upsert_of_not_mem lt e.2 hn.1.2]
      refine ih _ ?_
      rw [List.map_append, (((perm_insertBy (keyLt lt) e acc).map (·.1)).append_left _).nodup_iff, List.map_cons,
        List.perm_middle.nodup_iff, List.nodup_cons, List.mem_append, not_or]
      exact hn
  rw [sortBy_eq_foldl]
  exact key l [] (by simpa using hn)

/-- The four fields the receive path never writes. -/
structure OrbState.sameAdmin (a b : OrbState) : Prop where
  pp : a.pausedProtocols = b.pausedProtocols
  pc : a.pausedCrossChains = b.pausedCrossChains
  pa : a.pausedActions = b.pausedActions
  params : a.params = b.params

theorem OrbState.sameAdmin_refl (a : OrbState) : a.sameAdmin a := ⟨rfl, rfl, rfl, rfl⟩

theorem OrbState.sameAdmin.with_amounts {a b : OrbState} (h : a.sameAdmin b) (m : List (AmtKey × (Int × Int))) :
    OrbState.sameAdmin { a with amounts := m } b := ⟨h.pp, h.pc, h.pa, h.params⟩

theorem OrbState.sameAdmin.with_counts {a b : OrbState} (h : a.sameAdmin b) (m : List (CntKey × Nat)) :
    OrbState.sameAdmin { a with counts := m } b := ⟨h.pp, h.pc, h.pa, h.params⟩

theorem buildDispatched_cases (t : TransferAttrs) :
    (t.srcDenom = t.dstDenom ∧ buildDispatched t = [(t.srcDenom, t.srcAmount, t.dstAmount)]) ∨
    (t.srcDenom ≠ t.dstDenom ∧ buildDispatched t = [(t.srcDenom, t.srcAmount, 0), (t.dstDenom, 0, t.dstAmount)]) := by
  unfold buildDispatched
  by_cases h : t.srcDenom = t.dstDenom <;> simp [h]

theorem addAmount_some {o o' : OrbState} {k : AmtKey} {i u : Int} (h : addAmount o k i u = some o') :
    o' = { o with
      amounts := upsert amtLt o.amounts k
        (if i > 0 then (lookupD o.amounts k (0, 0)).1 + i else (lookupD o.amounts k (0, 0)).1,
         if u > 0 then (lookupD o.amounts k (0, 0)).2 + u else (lookupD o.amounts k (0, 0)).2) } := by
  unfold addAmount at h
  simp only at h
  generalize (overflows256 _ || overflows256 _) = cnd at h
  cases cnd <;> cases h
  rfl

theorem addCount_eq (o : OrbState) (ck : CntKey) :
    addCount o ck = if lookupD o.counts ck 0 = maxUint64 then (o, false)
      else ({ o with counts := upsert cntLt o.counts ck (lookupD o.counts ck 0 + 1) }, true) := by
  simp only [addCount, beq_iff_eq]

/-- Which of the two ways `updateStats` goes does not depend on the store. -/
theorem updateStats_cases (t : TransferAttrs) (f : Forwarding) :
    (∀ o, updateStats o t f = (o, false)) ∨
    ∃ a, f.attrs = some a ∧ crossChainValid t.srcProtocol t.srcCounterparty = true ∧
      crossChainValid f.protocolId a.counterpartyID = true ∧
      ∀ o, updateStats o t f =
        (let r := addAmounts (fun d => (⟨t.srcProtocol, t.srcCounterparty, ccidString f.protocolId a.counterpartyID, d⟩ : AmtKey))
          (buildDispatched t) o
         if !r.2 then (r.1, false) else addCount r.1 ⟨t.srcProtocol, t.srcCounterparty, f.protocolId, a.counterpartyID⟩) := by
  cases ha : f.attrs with
  | none => exact Or.inl fun o => by rw [updateStats, ha]
  | some a =>
    by_cases hv : (!crossChainValid t.srcProtocol t.srcCounterparty || !crossChainValid f.protocolId a.counterpartyID) = true
    · exact Or.inl fun o => by rw [updateStats, ha]; exact if_pos hv
    · have hv' : crossChainValid t.srcProtocol t.srcCounterparty = true ∧ crossChainValid f.protocolId a.counterpartyID = true := by
        simpa using hv
      exact Or.inr ⟨a, rfl, hv'.1, hv'.2, fun o => by rw [updateStats, ha]; exact if_neg hv⟩

/-- `updateStats` in one walk, as an induction principle: a predicate kept by `addAmount` on the entries of `buildDispatched t`
under the route's key and by the write of the route's count is kept by `updateStats`. -/
theorem updateStats_ind {Q : OrbState → Prop} (o : OrbState) (t : TransferAttrs) (f : Forwarding) (hq : Q o)
    (amt : ∀ a, f.attrs = some a → crossChainValid t.srcProtocol t.srcCounterparty = true →
      crossChainValid f.protocolId a.counterpartyID = true → ∀ e ∈ buildDispatched t, ∀ o o', Q o →
      addAmount o ⟨t.srcProtocol, t.srcCounterparty, ccidString f.protocolId a.counterpartyID, e.1⟩ e.2.1 e.2.2 = some o' → Q o')
    (cnt : ∀ a, f.attrs = some a → crossChainValid t.srcProtocol t.srcCounterparty = true →
      crossChainValid f.protocolId a.counterpartyID = true → ∀ o, Q o →
      Q { o with
        counts := upsert cntLt o.counts ⟨t.srcProtocol, t.srcCounterparty, f.protocolId, a.counterpartyID⟩
          (lookupD o.counts ⟨t.srcProtocol, t.srcCounterparty, f.protocolId, a.counterpartyID⟩ 0 + 1) }) :
    Q (updateStats o t f).1 := by
  rcases updateStats_cases t f with h | ⟨a, ha, hv1, hv2, h⟩ <;> rw [h]
  · exact hq
  -- the loop over the entries stops at the first overflow, keeping what was written
  have hA : ∀ (l : List (String × Int × Int)) (o : OrbState), (∀ e ∈ l, e ∈ buildDispatched t) → Q o →
      Q (addAmounts (fun d => (⟨t.srcProtocol, t.srcCounterparty, ccidString f.protocolId a.counterpartyID, d⟩ : AmtKey)) l o).1 := by
    intro l
    induction l with
    | nil => exact fun _ _ hq => hq
    | cons e rest ih =>
      intro o hl hq
      simp only [addAmounts]
      cases h1 : addAmount o _ e.2.1 e.2.2 with
      | none => exact hq
      | some o1 => exact ih o1 (fun x hx => hl x (List.mem_cons_of_mem _ hx)) (amt a ha hv1 hv2 e (hl e List.mem_cons_self) o o1 hq h1)
  have hA := hA (buildDispatched t) o (fun _ h => h) hq
  simp only
  split
  · exact hA
  · rw [addCount_eq]
    split
    · exact hA
    · exact cnt a ha hv1 hv2 _ hA

theorem updateStats_frame (o : OrbState) (t : TransferAttrs) (f : Forwarding) : (updateStats o t f).1.sameAdmin o :=
  updateStats_ind (Q := (·.sameAdmin o)) o t f (OrbState.sameAdmin_refl o)
    (fun _ _ _ _ _ _ _ _ hq h => by rw [addAmount_some h]; exact hq.with_amounts _) (fun _ _ _ _ _ hq => hq.with_counts _)

end Orbiter
