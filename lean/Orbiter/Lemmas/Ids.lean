/-
  Identifiers and their text. What `crossChainValid` asks, clause by clause; the printed form `ccidString p cp` of a pair is the
  decimal digits of the protocol number, a colon, the counterparty, so it inherits what holds of digits, the colon and the
  counterparty, and a valid pair parses back from it.
-/
import Orbiter.Lemmas.Decimal
import Orbiter.Lemmas.Utf8
import Orbiter.Ids
namespace Orbiter

/-- Every declared protocol number is a non-negative int32 (so `uint32(p)` prints `p`). -/
theorem protocolIds_range : ∀ e ∈ Gen.protocolIds, 0 ≤ e.1 ∧ e.1 < 2147483648 := by decide

theorem idSeparator_toList : Gen.idSeparator.toList = [':'] := by decide

theorem protocolValid_range {p : Int} (h : protocolValid p = true) : 0 < p ∧ p < 2147483648 := by
  simp only [protocolValid, Bool.and_eq_true, bne_iff_ne, ne_eq, List.any_eq_true, beq_iff_eq] at h
  obtain ⟨hne, e, hmem, he⟩ := h
  have := protocolIds_range e hmem
  omega

theorem crossChainValid_iff {p : Int} {cp : String} :
    crossChainValid p cp = true ↔
      protocolValid p = true ∧ cp ≠ "" ∧ hasNul cp = false ∧ allAscii cp = true ∧ byteLen cp ≤ Gen.maxCounterpartyIDLength ∧
      (if p == PROTOCOL_IBC then isValidChannelID cp
       else if p == PROTOCOL_CCTP || p == PROTOCOL_HYPERLANE then isCanonicalU32 cp
       else if p == PROTOCOL_INTERNAL then true
       else false) = true := by
  simp only [crossChainValid, validateCounterpartyID, Bool.and_eq_true, bne_iff_ne, ne_eq, Bool.not_eq_true', decide_eq_true_eq,
    and_assoc]

theorem crossChainValid_protocol {p : Int} {cp : String} (h : crossChainValid p cp = true) : protocolValid p = true :=
  (crossChainValid_iff.mp h).1

theorem crossChainValid_noNul {p : Int} {cp : String} (h : crossChainValid p cp = true) : hasNul cp = false :=
  (crossChainValid_iff.mp h).2.2.1

theorem crossChainValid_ascii {p : Int} {cp : String} (h : crossChainValid p cp = true) : allAscii cp = true :=
  (crossChainValid_iff.mp h).2.2.2.1

theorem hasNul_eq_false_iff {s : String} : hasNul s = false ↔ ∀ c ∈ s.toList, c ≠ Char.ofNat 0 := by
  simp only [hasNul, List.any_eq_false, beq_iff_eq]

theorem strBytes_noNul {s : String} (h : hasNul s = false) : ∀ b ∈ strBytes s, b ≠ 0 := by
  rw [strBytes_eq]
  intro b hb
  obtain ⟨c, hc, hbc⟩ := List.mem_flatMap.mp hb
  exact utf8EncodeChar_ne_zero c (hasNul_eq_false_iff.mp h c hc) b hbc

theorem allAscii_iff {s : String} : allAscii s = true ↔ ∀ c ∈ s.toList, c.toNat < 128 := by
  simp only [allAscii, List.all_eq_true, decide_eq_true_eq]

theorem byteLen_of_ascii {s : String} (h : allAscii s = true) : byteLen s = s.toList.length := by
  rw [byteLen, List.map_congr_left fun c hc => utf8Size_of_ascii (allAscii_iff.mp h c hc), List.foldl_map, List.foldl_add_const,
    Nat.one_mul, Nat.zero_add]

theorem natToDec_ascii (n : Nat) : allAscii (natToDec n) = true := by
  rw [allAscii_iff, natToDec_toList]
  exact natDigits_forall (·.toNat < 128) (by decide) n

theorem isCanonicalU32_eq (s : String) : isCanonicalU32 s = (canonicalDigits s.toList && decide (decVal s.toList < 2 ^ 32)) := rfl

theorem isCanonicalU32_iff (s : String) : isCanonicalU32 s = true ↔ ∃ n, n < 2 ^ 32 ∧ s = natToDec n := by
  rw [isCanonicalU32_eq, Bool.and_eq_true, decide_eq_true_eq]
  constructor
  · rintro ⟨hcan, hlt⟩
    exact ⟨_, hlt, by rw [natToDec, natDigits_decVal hcan, String.ofList_toList]⟩
  · rintro ⟨n, hn, rfl⟩
    rw [natToDec_toList, decVal_natDigits]
    exact ⟨natDigits_canonical n, hn⟩

theorem splitFirst_append (sep : Char) (ds rest : List Char) (h : sep ∉ ds) :
    splitFirst sep (ds ++ sep :: rest) = some (ds, rest) := by
  induction ds with
  | nil => simp [splitFirst]
  | cons c cs ih =>
    have hc : c ≠ sep := fun e => h (by simp [e])
    have hcs : sep ∉ cs := fun m => h (List.mem_cons_of_mem _ m)
    simp only [List.cons_append, splitFirst, beq_iff_eq, hc, ↓reduceIte, ih hcs]

theorem ccidString_toList (p : Int) (cp : String) :
    (ccidString p cp).toList = natDigits ((p % (2 ^ 32 : Int)).toNat) ++ ':' :: cp.toList := by
  simp only [ccidString, String.toList_append, natToDec_toList, idSeparator_toList, List.append_assoc, List.singleton_append]

/-- A property of characters that holds of the ten digits and of the colon passes from a counterparty to its printed
identifier. -/
theorem ccidString_forall (P : Char → Prop) (hd : ∀ k < 10, P (Char.ofNat (48 + k))) (hc : P ':') {p : Int} {cp : String}
    (h : ∀ c ∈ cp.toList, P c) : ∀ c ∈ (ccidString p cp).toList, P c := by
  intro c hm
  rw [ccidString_toList, List.mem_append, List.mem_cons] at hm
  rcases hm with hm | rfl | hm
  · exact natDigits_forall P hd _ c hm
  · exact hc
  · exact h c hm

theorem ccidString_noNul {p : Int} {cp : String} (h : hasNul cp = false) : hasNul (ccidString p cp) = false :=
  hasNul_eq_false_iff.mpr (ccidString_forall (· ≠ Char.ofNat 0) (by decide) (by decide) (hasNul_eq_false_iff.mp h))

theorem ccidString_ascii {p : Int} {cp : String} (h : allAscii cp = true) : allAscii (ccidString p cp) = true :=
  allAscii_iff.mpr (ccidString_forall (·.toNat < 128) (by decide) (by decide) (allAscii_iff.mp h))

theorem parseCrossChainID_ccidString {p : Int} {cp : String} (h : crossChainValid p cp = true) :
    parseCrossChainID (ccidString p cp) = some (p, cp) := by
  obtain ⟨hp0, hp1⟩ := protocolValid_range (crossChainValid_protocol h)
  -- the printed form is the decimal digits of `p` (which is its own residue mod 2^32), a colon, the counterparty
  have hlist : (ccidString p cp).toList = natDigits p.toNat ++ ':' :: cp.toList := by
    rw [ccidString_toList, Int.emod_eq_of_lt (by omega) (by omega)]
  have hpi : parseInt32 (String.ofList (natDigits p.toNat)) = some p := by
    rw [show String.ofList (natDigits p.toNat) = natToDec p.toNat from rfl, parseInt32, parseInt_natToDec, Int.ofNat_eq_natCast,
      Int.toNat_of_nonneg (Int.le_of_lt hp0)]
    exact if_pos (by rw [Bool.and_eq_true, decide_eq_true_eq, decide_eq_true_eq]; omega)
  simp only [parseCrossChainID, idSeparator_toList, hlist, splitFirst_append _ _ _ (fun hm => natDigits_forall (· ≠ ':') (by decide) _ _ hm rfl), hpi, String.ofList_toList, h,
    ↓reduceIte]

end Orbiter
