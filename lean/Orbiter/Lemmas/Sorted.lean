/-
  The stored lists are sorted in the byte order of their key encodings, in every reachable state; hence an
  export/import round trip reproduces a store whose parameters are set exactly (C17: the export writes unset parameters
  as 0) and the listings are sorted (C13). The first file over both the key orders and the invariant: what joins them
  (`amtKeyOk_of_entryValid`, `cntKeyOk_of_entryValid`) is here.
-/
import Orbiter.Lemmas.Order
import Orbiter.Lemmas.Reach
namespace Orbiter

structure OrbState.Srt (o : OrbState) : Prop where
  pp : SortedBy intLt o.pausedProtocols
  pc : SortedBy ccLt o.pausedCrossChains
  pa : SortedBy intLt o.pausedActions
  amt : SortedBy amtLt (o.amounts.map (·.1))
  cnt : SortedBy cntLt (o.counts.map (·.1))

theorem OrbState.Srt_empty : OrbState.Srt {} :=
  ⟨List.Pairwise.nil, List.Pairwise.nil, List.Pairwise.nil, List.Pairwise.nil, List.Pairwise.nil⟩

def OrbState.Good (o : OrbState) : Prop := o.Inv ∧ o.Srt

theorem amtKeyOk_of_entryValid {e : AmtKey × (Int × Int)} (h : amtEntryValid e) : amtKeyOk e.1 := by
  obtain ⟨p, cp, hv, hd⟩ := h.dst
  exact ⟨int32Range_of_crossChainValid h.src, crossChainValid_noNul h.src, by rw [hd]; exact ccidString_noNul (crossChainValid_noNul hv)⟩

theorem cntKeyOk_of_entryValid {e : CntKey × Nat} (h : cntEntryValid e) : cntKeyOk e.1 :=
  ⟨int32Range_of_crossChainValid h.src, int32Range_of_crossChainValid h.dst, crossChainValid_noNul h.src⟩

/-- Sortedness is kept by each write, given the invariant before it (which supplies the validity of the keys present). -/
theorem OrbState.Good.kept : OrbState.Kept OrbState.Good where
  pauseProtocol hg hv hn := ⟨OrbState.Inv.kept.pauseProtocol hg.1 hv hn, { hg.2 with
    pp := sorted_insertBy intLt_strict trivial (fun _ _ => trivial) hn hg.2.pp }⟩
  unpauseProtocol hg hm := ⟨OrbState.Inv.kept.unpauseProtocol hg.1 hm, { hg.2 with pp := List.Pairwise.erase _ hg.2.pp }⟩
  pauseCrossChain hg hv hn := ⟨OrbState.Inv.kept.pauseCrossChain hg.1 hv hn, { hg.2 with
    pc := sorted_insertBy ccLt_strict (int32Range_of_crossChainValid hv) (fun y hy => int32Range_of_crossChainValid (hg.1.pc_valid y hy)) hn hg.2.pc }⟩
  unpauseCrossChain hg hm := ⟨OrbState.Inv.kept.unpauseCrossChain hg.1 hm, { hg.2 with pc := List.Pairwise.erase _ hg.2.pc }⟩
  pauseAction hg hv hn := ⟨OrbState.Inv.kept.pauseAction hg.1 hv hn, { hg.2 with
    pa := sorted_insertBy intLt_strict trivial (fun _ _ => trivial) hn hg.2.pa }⟩
  unpauseAction hg hm := ⟨OrbState.Inv.kept.unpauseAction hg.1 hm, { hg.2 with pa := List.Pairwise.erase _ hg.2.pa }⟩
  params hg := ⟨OrbState.Inv.kept.params hg.1, { hg.2 with }⟩
  amount hg hv := ⟨hg.1.upsert_amount hv, { hg.2 with
    amt := sorted_keys_upsert amtLt_strict (amtKeyOk_of_entryValid hv) (fun e he => amtKeyOk_of_entryValid (hg.1.amt_valid e he)) hg.2.amt }⟩
  count hg hv := ⟨hg.1.upsert_count hv, { hg.2 with
    cnt := sorted_keys_upsert cntLt_strict (cntKeyOk_of_entryValid hv) (fun e he => cntKeyOk_of_entryValid (hg.1.cnt_valid e he)) hg.2.cnt }⟩

/-- **Export then import reproduces the store exactly** (for a store whose parameters were ever set — every
store initialised from a genesis): rebuilding a sorted list by insertion gives the list back. -/
theorem reimport_exact {o : OrbState} (hg : o.Good) (hp : o.params.isSome = true) : initGenesis (exportGenesis o) = .ok o := by
  rw [reimport_eq hg.1]
  obtain ⟨pp, pc, pa, params, amounts, counts⟩ := o
  obtain ⟨n, rfl⟩ := Option.isSome_iff_exists.mp hp
  have hs := hg.2
  -- sorting a sorted list changes nothing; the two maps are lists of entries sorted by key
  simp only [OrbState.rebuilt, sortBy_of_sorted intLt_strict.asymm hs.pp, sortBy_of_sorted ccLt_strict.asymm hs.pc,
    sortBy_of_sorted intLt_strict.asymm hs.pa,
    sortBy_of_sorted (lt := keyLt amtLt) amtLt_strict.asymm (sortedBy_keys.mp hs.amt),
    sortBy_of_sorted (lt := keyLt cntLt) cntLt_strict.asymm (sortedBy_keys.mp hs.cnt), Option.getD_some]

theorem reimportStep_exact {o : OrbState} (hg : o.Good) (hp : o.params.isSome = true) :
    reimportStep o = (.reimport true true true, o) := by
  unfold reimportStep
  simp only [reimport_exact hg hp, validate_export hg.1, Res.isOk, beq_self_eq_true, Bool.and_self]

/-- A store whose parameters were never set exports them as 0: its round trip is that of the store with `params := some 0`. -/
theorem reimportStep_good (o : OrbState) (hg : o.Good) : (reimportStep o).2.Good := by
  cases hpar : o.params with
  | some n =>
    rw [reimportStep_exact hg (by rw [hpar]; rfl)]
    exact hg
  | none =>
    have hg1 : OrbState.Good { o with params := some 0 } := OrbState.Good.kept.params hg
    have hexp : exportGenesis o = exportGenesis { o with params := some 0 } := by
      simp only [exportGenesis, hpar, Option.getD_none, Option.getD_some]
    have := reimport_exact hg1 rfl
    rw [← hexp] at this
    rw [reimportStep_snd, this]
    exact hg1

theorem run_good (wr : Wiring) (w : World) (ops : List Op) (hg : w.orb.Good) : (run wr w ops).orb.Good :=
  run_preserves (fun _ h => h.1) OrbState.Good.kept reimportStep_good wr w ops hg

end Orbiter
