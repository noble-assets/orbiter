/-
  What a successful admin message is, read off `msgStep` once: the six setters and `forwarderPause` as equivalences, `msgStep`
  as an inversion lemma (`msgStep_ok`: the signer is the authority, and `MsgWrite o m o'`; nothing of events and requests). A
  statement about every successful message is `cases` on that relation; `msgStep` itself is run only where a given message is
  shown to succeed or to be refused (C10). Last, the operation `msg` of `step` by cases and `run` one operation at a time.
-/
import Orbiter.Lemmas.Res
import Orbiter.Step
namespace Orbiter

theorem setPausedProtocol_ok {o o' : OrbState} {p : Int} :
    setPausedProtocol o p = .ok o' ↔
      protocolValid p = true ∧ p ∉ o.pausedProtocols ∧ o' = { o with pausedProtocols := insertBy intLt p o.pausedProtocols } := by
  simp only [setPausedProtocol, Res.ite_err_eq_ok, Bool.not_eq_false, Bool.not_eq_eq_eq_not, Bool.not_true, List.contains_iff_mem, Res.ok.injEq, eq_comm (b := o')]

theorem setUnpausedProtocol_ok {o o' : OrbState} {p : Int} :
    setUnpausedProtocol o p = .ok o' ↔
      protocolValid p = true ∧ p ∈ o.pausedProtocols ∧ o' = { o with pausedProtocols := o.pausedProtocols.erase p } := by
  simp only [setUnpausedProtocol, Res.ite_err_eq_ok, Bool.not_eq_false, Bool.not_eq_eq_eq_not, Bool.not_true, List.contains_iff_mem, Res.ok.injEq, eq_comm (b := o')]

theorem setPausedCrossChain_ok {o o' : OrbState} {p : Int} {c : String} :
    setPausedCrossChain o p c = .ok o' ↔
      crossChainValid p c = true ∧ (p, c) ∉ o.pausedCrossChains ∧
      o' = { o with pausedCrossChains := insertBy ccLt (p, c) o.pausedCrossChains } := by
  simp only [setPausedCrossChain, Res.ite_err_eq_ok, Bool.not_eq_false, Bool.not_eq_eq_eq_not, Bool.not_true, List.contains_iff_mem, Res.ok.injEq, eq_comm (b := o')]

theorem setUnpausedCrossChain_ok {o o' : OrbState} {p : Int} {c : String} :
    setUnpausedCrossChain o p c = .ok o' ↔
      crossChainValid p c = true ∧ (p, c) ∈ o.pausedCrossChains ∧
      o' = { o with pausedCrossChains := o.pausedCrossChains.erase (p, c) } := by
  simp only [setUnpausedCrossChain, Res.ite_err_eq_ok, Bool.not_eq_false, Bool.not_eq_eq_eq_not, Bool.not_true, List.contains_iff_mem, Res.ok.injEq, eq_comm (b := o')]

theorem setPausedAction_ok {o o' : OrbState} {a : Int} :
    setPausedAction o a = .ok o' ↔
      actionValid a = true ∧ a ∉ o.pausedActions ∧ o' = { o with pausedActions := insertBy intLt a o.pausedActions } := by
  simp only [setPausedAction, Res.ite_err_eq_ok, Bool.not_eq_false, Bool.not_eq_eq_eq_not, Bool.not_true, List.contains_iff_mem, Res.ok.injEq, eq_comm (b := o')]

theorem setUnpausedAction_ok {o o' : OrbState} {a : Int} :
    setUnpausedAction o a = .ok o' ↔
      actionValid a = true ∧ a ∈ o.pausedActions ∧ o' = { o with pausedActions := o.pausedActions.erase a } := by
  simp only [setUnpausedAction, Res.ite_err_eq_ok, Bool.not_eq_false, Bool.not_eq_eq_eq_not, Bool.not_true, List.contains_iff_mem, Res.ok.injEq, eq_comm (b := o')]

theorem forwarderPause_ok {b : Bool} {o o' : OrbState} {p : Int} {ids : List String} :
    forwarderPause b o p ids = .ok o' ↔ protocolValid p = true ∧
      ((ids = [] ∧ (if b then setPausedProtocol o p else setUnpausedProtocol o p) = .ok o') ∨
       (ids ≠ [] ∧ (∀ id ∈ ids, validateCounterpartyID id p = true) ∧
        ids.foldlM (fun o id => if b then setPausedCrossChain o p id else setUnpausedCrossChain o p id) o = .ok o')) := by
  cases ids with
  | nil =>
    simp only [forwarderPause, Res.ite_err_eq_ok, Bool.not_eq_true', Bool.not_eq_false, List.isEmpty_nil, ↓reduceIte, true_and, ne_eq,
      not_true, false_and, or_false]
  | cons id rest =>
    simp only [forwarderPause, Res.ite_err_eq_ok, Bool.not_eq_true', Bool.not_eq_false, List.isEmpty_cons, Bool.false_eq_true, ↓reduceIte,
      List.any_eq_true, not_exists, not_and, reduceCtorEq, false_and, false_or, ne_eq, not_false_eq_true, true_and]

/-- What a successful message did to the store: one constructor per handler that writes (`replaceDepositForBurn` never succeeds). -/
inductive MsgWrite (o : OrbState) : Msg → OrbState → Prop
  | pauseProtocol {s pid p o'} : protocolIdFromString pid = some p → forwarderPause true o p [] = .ok o' → MsgWrite o (.pauseProtocol s pid) o'
  | unpauseProtocol {s pid p o'} : protocolIdFromString pid = some p → forwarderPause false o p [] = .ok o' → MsgWrite o (.unpauseProtocol s pid) o'
  | pauseCrossChains {s pid ids p o'} : protocolIdFromString pid = some p → forwarderPause true o p ids = .ok o' →
      MsgWrite o (.pauseCrossChains s pid ids) o'
  | unpauseCrossChains {s pid ids p o'} : protocolIdFromString pid = some p → forwarderPause false o p ids = .ok o' →
      MsgWrite o (.unpauseCrossChains s pid ids) o'
  | pauseAction {s aid a o'} : actionIdFromString aid = some a → setPausedAction o a = .ok o' → MsgWrite o (.pauseAction s aid) o'
  | unpauseAction {s aid a o'} : actionIdFromString aid = some a → setUnpausedAction o a = .ok o' → MsgWrite o (.unpauseAction s aid) o'
  | updateParams {s n} : MsgWrite o (.updateParams s n) { o with params := some n }

theorem msgStep_ok {cfg : Cfg} {φ : Faults} {o o' : OrbState} {m : Msg} {evs : List String} {rq : List Req}
    (h : msgStep cfg φ o m = .ok (o', evs, rq)) : m.signer = cfg.authority ∧ MsgWrite o m o' := by
  unfold msgStep at h
  rw [Res.ite_err_eq_ok] at h
  refine ⟨by simpa using h.1, ?_⟩
  have h := h.2
  -- every handler with an event is `body >>= fun o => emit >>= fun _ => pure (o, …)`
  have tail : ∀ {x : Res OrbState} {e : Res Unit} {ev : List String},
      (x >>= fun o1 => e >>= fun _ => pure (o1, ev, ([] : List Req))) = .ok (o', evs, rq) → x = .ok o' := by
    intro x e ev hx
    obtain ⟨o1, h1, hx⟩ := Res.bind_eq_ok.mp hx
    obtain ⟨_, _, hx⟩ := Res.bind_eq_ok.mp hx
    cases hx
    exact h1
  cases m with
  | pauseProtocol s pid | unpauseProtocol s pid =>
    simp only at h
    cases hp : protocolIdFromString pid with
    | none => simp [hp] at h
    | some p =>
      rw [hp] at h
      constructor
      · exact hp
      · exact tail h
  | pauseCrossChains s pid ids | unpauseCrossChains s pid ids =>
    simp only at h
    cases hp : protocolIdFromString pid with
    | none => simp [hp] at h
    | some p =>
      rw [hp] at h
      constructor
      · exact hp
      · exact tail (Res.ite_err_eq_ok.mp h).2
  | replaceDepositForBurn s a b c d =>
    simp only at h
    split at h <;> cases h
  | pauseAction s aid | unpauseAction s aid =>
    simp only at h
    cases hp : actionIdFromString aid with
    | none => simp [hp] at h
    | some a =>
      rw [hp] at h
      constructor
      · exact hp
      · exact tail h
  | updateParams s n =>
    simp only [Res.ok.injEq, Prod.mk.injEq] at h
    rw [← h.1]
    exact .updateParams

/-- The four writes of `forwarderPause`, as closure conditions on a predicate. -/
structure OrbState.FwdKept (Q : OrbState → Prop) : Prop where
  pauseProtocol : ∀ {o p}, Q o → protocolValid p = true → p ∉ o.pausedProtocols → Q { o with pausedProtocols := insertBy intLt p o.pausedProtocols }
  unpauseProtocol : ∀ {o p}, Q o → p ∈ o.pausedProtocols → Q { o with pausedProtocols := o.pausedProtocols.erase p }
  pauseCrossChain : ∀ {o x}, Q o → crossChainValid x.1 x.2 = true → x ∉ o.pausedCrossChains →
    Q { o with pausedCrossChains := insertBy ccLt x o.pausedCrossChains }
  unpauseCrossChain : ∀ {o x}, Q o → x ∈ o.pausedCrossChains → Q { o with pausedCrossChains := o.pausedCrossChains.erase x }

/-- The seven writes a message can make to the store. -/
structure OrbState.MsgKept (Q : OrbState → Prop) : Prop extends OrbState.FwdKept Q where
  pauseAction : ∀ {o a}, Q o → actionValid a = true → a ∉ o.pausedActions → Q { o with pausedActions := insertBy intLt a o.pausedActions }
  unpauseAction : ∀ {o a}, Q o → a ∈ o.pausedActions → Q { o with pausedActions := o.pausedActions.erase a }
  params : ∀ {o n}, Q o → Q { o with params := some n }

theorem forwarderPause_preserves {Q : OrbState → Prop} (hk : OrbState.FwdKept Q)
    {b : Bool} {o o' : OrbState} {p : Int} {ids : List String} (hq : Q o) (h : forwarderPause b o p ids = .ok o') : Q o' := by
  rcases (forwarderPause_ok.mp h).2 with ⟨_, h⟩ | ⟨_, _, h⟩
  · cases b
    · obtain ⟨_, hm, rfl⟩ := setUnpausedProtocol_ok.mp h
      exact hk.unpauseProtocol hq hm
    · obtain ⟨hv, hm, rfl⟩ := setPausedProtocol_ok.mp h
      exact hk.pauseProtocol hq hv hm
  · refine Res.foldlM_inv Q ?_ hq h
    intro id _ o1 o2 hq1 hs
    cases b
    · obtain ⟨_, hm, rfl⟩ := setUnpausedCrossChain_ok.mp hs
      exact hk.unpauseCrossChain hq1 hm
    · obtain ⟨hv, hm, rfl⟩ := setPausedCrossChain_ok.mp hs
      exact hk.pauseCrossChain hq1 hv hm

theorem msgStep_preserves {Q : OrbState → Prop} (hk : OrbState.MsgKept Q)
    {cfg : Cfg} {φ : Faults} {o o' : OrbState} {m : Msg} {evs : List String} {rq : List Req} (hq : Q o)
    (h : msgStep cfg φ o m = .ok (o', evs, rq)) : Q o' := by
  cases (msgStep_ok h).2 with
  | pauseProtocol _ hf | unpauseProtocol _ hf | pauseCrossChains _ hf | unpauseCrossChains _ hf =>
    exact forwarderPause_preserves hk.toFwdKept hq hf
  | pauseAction _ hs =>
    obtain ⟨hv, hm, rfl⟩ := setPausedAction_ok.mp hs
    exact hk.pauseAction hq hv hm
  | unpauseAction _ hs =>
    obtain ⟨_, hm, rfl⟩ := setUnpausedAction_ok.mp hs
    exact hk.unpauseAction hq hm
  | updateParams => exact hk.params hq

theorem step_msg_cases (wr : Wiring) (φ : Faults) (w : World) (m : Msg) :
    ((∀ r, msgStep wr.cfg φ w.orb m ≠ .ok r) ∧ step wr φ w (.msg m) = (.msg false [], w)) ∨
    ∃ o' evs rq, msgStep wr.cfg φ w.orb m = .ok (o', evs, rq) ∧ step wr φ w (.msg m) = (.msg true evs, { w with orb := o' }) := by
  simp only [step]
  cases msgStep wr.cfg φ w.orb m with
  | ok r => exact Or.inr ⟨r.1, r.2.1, r.2.2, rfl, rfl⟩
  | _ => exact Or.inl ⟨fun _ h => (nomatch h), rfl⟩

theorem run_cons (wr : Wiring) (w : World) (op : Op) (ops : List Op) :
    run wr w (op :: ops) = run wr (step wr noFaults w op).2 ops := rfl

end Orbiter
