/-
  What a validator that returned `ok` has checked: one statement per `Validate` method, the conjunction of its guards — an
  equivalence wherever rewriting with the inversion lemmas of `Lemmas/Res.lean` gives it, an implication where the converse
  would take an argument of its own (`Attrs.validate_internal_ok`, `FeeInfo.validate_ok`).
-/
import Orbiter.Pure
import Orbiter.Lemmas.Res
namespace Orbiter

theorem validDenom_ne_empty {d : String} (h : validDenom d = true) : d ≠ "" := by
  rintro rfl
  exact Bool.false_ne_true h

theorem coinValid_denom {d : String} {a : Int} (h : coinValid d a = true) : validDenom d = true :=
  (Bool.and_eq_true_iff.mp h).1

theorem TransferAttrs.validate_ok {t : TransferAttrs} : t.validate = .ok () ↔
    crossChainValid t.srcProtocol t.srcCounterparty = true ∧ coinValid t.srcDenom t.srcAmount = true ∧ 0 < t.srcAmount ∧
    coinValid t.dstDenom t.dstAmount = true ∧ 0 < t.dstAmount := by
  simp only [TransferAttrs.validate, Res.ite_err_eq_ok, Bool.not_eq_true', Bool.not_eq_false, Int.not_le, and_true]

theorem Attrs.validate_internal_ok {hrp recipient : String} {orb : Bytes} (h : (Attrs.internal recipient).validate hrp orb = .ok ()) :
    ∃ dst, accAddressFromBech32 hrp recipient = some dst ∧ dst ≠ orb := by
  simp only [Attrs.validate, Res.ite_err_eq_ok] at h
  cases hd : accAddressFromBech32 hrp recipient with
  | none => simp only [hd, reduceCtorEq, and_false] at h
  | some dst => exact ⟨dst, rfl, by simpa [hd, Res.ite_err_eq_ok] using h.2⟩

theorem Attrs.validate_hyp_ok {hrp : String} {orb tok rec_ hook : Bytes} {domain : Nat} {hmeta feeDenom : String} {gas feeAmt : Int} :
    (Attrs.hyp tok domain rec_ hook hmeta gas feeDenom feeAmt).validate hrp orb = .ok () ↔
    tok.length = Gen.hypTokenIDLen ∧ rec_.length = Gen.hypRecipientLen ∧ (hook.length = 0 ∨ hook.length = Gen.hypCustomHookLen) ∧
    domain ≠ Gen.hypNobleMainnetDomain ∧ domain ≠ Gen.hypNobleTestnetDomain ∧
    (hmeta = "" ∨ (hmeta.startsWith Gen.hypHookMetadataPrefix = true ∧
      isHexString (hmeta.drop Gen.hypHookMetadataPrefix.length).toString = true)) ∧
    0 ≤ gas ∧ gas < 18446744073709551616 ∧ 0 ≤ feeAmt ∧ ((feeAmt ≠ 0 ∨ feeDenom ≠ "") → validDenom feeDenom = true) := by
  -- a guard `x != a && !c` is passed when `¬ x = a → c`, which the statement writes `x = a ∨ c`
  simp only [Attrs.validate, Res.ite_err_eq_ok, and_true, bne_iff_ne, ne_eq, Bool.and_eq_true, Bool.or_eq_true,
    beq_iff_eq, decide_eq_true_eq, Bool.not_eq_true', Bool.not_eq_false, Decidable.not_not, not_or, Int.not_lt,
    Int.not_le, ge_iff_le, not_and, and_assoc, Decidable.or_iff_not_imp_left (a := hook.length = 0),
    Decidable.or_iff_not_imp_left (a := hmeta = "")]

theorem FeeInfo.validate_ok {hrp : String} {f : FeeInfo} (h : f.validate hrp = .ok ()) :
    (match f.feeType with
      | .unset => False
      | .bps v => v ≠ 0 ∧ v ≤ Gen.bpsNormalizer
      | .amount s => ∃ i, newIntFromString s = some i ∧ 0 < i) ∧
    ∃ r, accAddressFromBech32 hrp f.recipient = some r := by
  obtain ⟨_, h1, h2⟩ := Res.bind_eq_ok.mp h
  unfold FeeInfo.checkType at h1
  unfold FeeInfo.checkRecipient at h2
  constructor
  · generalize f.feeType = ft at h1 ⊢
    cases ft with
    | unset => cases h1
    | bps v => simpa [Res.ite_err_eq_ok] using h1
    | amount s =>
      cases hs : newIntFromString s with
      | none => simp only [hs, reduceCtorEq] at h1
      | some i => exact ⟨i, hs, by simpa [hs, Res.ite_err_eq_ok] using h1⟩
  · cases hr : accAddressFromBech32 hrp f.recipient with
    | none => simp only [hr, reduceCtorEq] at h2
    | some r => exact ⟨r, rfl⟩

theorem validateFeeAttrs_ok {hrp : String} {infos : List FeeInfo} : validateFeeAttrs hrp infos = .ok () ↔
    infos.length ≤ Gen.maxFeeRecipients ∧ ∀ f ∈ infos, f.validate hrp = .ok () := by
  simp only [validateFeeAttrs, Res.bind_err, Res.ite_err_eq_ok, Res.allM_eq_ok, Nat.not_lt]

theorem Forwarding.validate_ok {f : Forwarding} : f.validate = .ok () ↔ protocolValid f.protocolId = true ∧ ∃ at_, f.attrs = some at_ := by
  simp only [Forwarding.validate, Res.ite_err_eq_ok, and_true, Bool.not_eq_true', Bool.not_eq_false, Option.isNone_iff_eq_none,
    ← Option.ne_none_iff_exists', ne_eq]

theorem Action.validate_ok {a : Action} : a.validate = .ok () ↔ actionValid a.id = true ∧ ∃ at_, a.attrs = some at_ := by
  simp only [Action.validate, Res.ite_err_eq_ok, and_true, Bool.not_eq_true', Bool.not_eq_false, Option.isNone_iff_eq_none,
    ← Option.ne_none_iff_exists', ne_eq]

theorem hasDupIds_eq_false_iff {l : List Int} : hasDupIds l = false ↔ l.Nodup := by
  induction l with
  | nil => simp [hasDupIds]
  | cons x xs ih => simp [hasDupIds, ih]

theorem Payload.validate_ok {p : Payload} : p.validate = .ok () ↔
    hasDupIds (p.preActions.map (·.id)) = false ∧ (∀ a ∈ p.preActions, a.validate = .ok ()) ∧
    ∃ f, p.forwarding = some f ∧ f.validate = .ok () := by
  simp only [Payload.validate, Res.bind_err, Res.ite_err_eq_ok, Res.seq_eq_ok, Res.allM_eq_ok, Bool.not_eq_true]
  cases p.forwarding <;> simp

theorem RawPayload.validate_ok {r : RawPayload} {p : Payload} : r.validate = .ok p ↔
    r.preActions.any Option.isNone = false ∧ p = { forwarding := r.forwarding, preActions := r.preActions.filterMap id } ∧
    p.validate = .ok () := by
  -- the left side becomes the guards of `RawPayload.validate` in order: no nil action, no repeated id, every action valid, and
  -- the match on `r.forwarding` returned `p`; the middle two are those of `Payload.validate` on the actions of `p`
  simp only [RawPayload.validate, Res.bind_err, Res.ite_err_eq_ok, Res.seq_eq_ok, Res.allM_eq_ok, Bool.not_eq_true]
  constructor
  · rintro ⟨hnil, hdup, hacts, h⟩
    cases hf : r.forwarding with
    | none => rw [hf] at h; cases h
    | some f =>
      rw [hf] at h
      obtain ⟨hfv, h⟩ := Res.seq_eq_ok.mp h
      cases h
      exact ⟨hnil, rfl, Payload.validate_ok.mpr ⟨hdup, hacts, f, rfl, hfv⟩⟩
  · rintro ⟨hnil, rfl, hv⟩
    obtain ⟨hdup, hacts, f, hf, hfv⟩ := Payload.validate_ok.mp hv
    refine ⟨hnil, hdup, hacts, ?_⟩
    rw [show r.forwarding = some f from hf]
    exact Res.seq_eq_ok.mpr ⟨hfv, rfl⟩

end Orbiter
