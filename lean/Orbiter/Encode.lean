/-
  Orbiter.Encode — what `types.MarshalJSON` (the SDK codec's `ProtoMarshalJSON`: gogoproto jsonpb with
  `OrigName`, `EmitDefaults` and the interface registry as `AnyResolver`) writes for a `PayloadWrapper`:
  payload → tree (`encWrapper`) → bytes (`Json.render`).  The inverse direction is `parsePayload`; the
  round trip is proved in `Props/C15.lean`.  The bytes are compared with the real marshaller's output by
  stream S1 (`pure marshal`), byte for byte.

  Attribute messages live in an `Any`: what is printed is the message re-read from its binary form, so an
  empty `bytes` field is always the nil slice (`null`).  `passthrough_payload` is a direct field: a nil
  slice prints `null`, an empty non-nil one `""` — the caller's choice, `nilPass` here.
-/
import Orbiter.Pure
namespace Orbiter

/-- The string whose UTF-8 bytes are the (ASCII) bytes `bs`. -/
def asciiString (bs : Bytes) : String := String.ofList (bs.map fun b => Char.ofNat b.toNat)

/-- Does `appendString` (HTML escaping on) write the character as it is? -/
def rawChar (c : Char) : Bool :=
  let n := c.toNat
  if n < 0x80 then !(c == '"' || c == '\\' || n < 0x20 || c == '<' || c == '>' || c == '&')
  else n != 0x2028 && n != 0x2029

/-- A string value; the flag says whether the text between the quotes is the value itself (no escapes), which is
what the syntax layer reports for it when it reads the rendered text back. -/
def encStr (s : String) : Json := .str s (s.toList.all rawChar)

def encB64 (b : Bytes) : Json := encStr (asciiString (b64Encode b))

/-- A `bytes` field of a message held in an `Any`. -/
def encBytesAny (b : Bytes) : Json := if b.isEmpty then .null else encB64 b

/-- A `bytes` field held directly. -/
def encBytesTop (nilEmpty : Bool) (b : Bytes) : Json := if b.isEmpty && nilEmpty then .null else encB64 b

def encUint (n : Nat) : Json := .num (natToDec n)

/-- customtype `math.Int`: `"<decimal>"`. -/
def encMathInt (i : Int) : Json := encStr (intToDec i)

/-- Enum: the name when the number has one, the bare number otherwise. -/
def encEnum (names : List (Int × String)) (n : Int) : Json :=
  match names.find? (·.1 == n) with
  | some (_, s) => encStr s
  | none => .num (intToDec n)

def encFeeInfo (f : FeeInfo) : Json :=
  .obj (("recipient", encStr f.recipient) ::
    (match f.feeType with
     | .unset => []
     | .bps v => [("basis_points", .obj [("value", encUint v)])]
     | .amount s => [("amount", .obj [("value", encStr s)])]))

def encAttrs : Attrs → Json
  | .cctp domain mint caller =>
      .obj [("@type", encStr cctpUrl), ("destination_domain", encUint domain), ("mint_recipient", encBytesAny mint),
            ("destination_caller", encBytesAny caller)]
  | .hyp tok domain rec_ hook hmeta gas feeDenom feeAmt =>
      .obj [("@type", encStr hypUrl), ("token_id", encBytesAny tok), ("destination_domain", encUint domain),
            ("recipient", encBytesAny rec_), ("custom_hook_id", encBytesAny hook), ("custom_hook_metadata", encStr hmeta),
            ("gas_limit", encMathInt gas), ("max_fee", .obj [("denom", encStr feeDenom), ("amount", encMathInt feeAmt)])]
  | .internal recipient => .obj [("@type", encStr internalUrl), ("recipient", encStr recipient)]
  | .fee infos => .obj [("@type", encStr feeUrl), ("fees_info", .arr (infos.map encFeeInfo))]

def encAny : Option Attrs → Json
  | none => .null
  | some a => encAttrs a

def encAction (a : Action) : Json :=
  .obj [("id", encEnum Gen.actionIds a.id), ("attributes", encAny a.attrs)]

def encForwarding (nilPass : Bool) (f : Forwarding) : Json :=
  .obj [("protocol_id", encEnum Gen.protocolIds f.protocolId), ("attributes", encAny f.attrs),
        ("passthrough_payload", encBytesTop nilPass f.passthrough)]

def encPayload (nilPass : Bool) (p : Payload) : Json :=
  .obj [("pre_actions", .arr (p.preActions.map encAction)),
        ("forwarding", match p.forwarding with | some f => encForwarding nilPass f | none => .null)]

/-- `PayloadWrapper{Orbiter: p}`. -/
def encWrapper (nilPass : Bool) (p : Payload) : Json := .obj [(Gen.orbiterPrefix, encPayload nilPass p)]

/-! ### tree → bytes, as `encoding/json` writes strings (HTML escaping on) and jsonpb joins the rest -/

def hexLower (n : Nat) : UInt8 := if n < 10 then UInt8.ofNat (48 + n) else UInt8.ofNat (87 + n)

/-- One character of a string literal (`appendString`, `escapeHTML = true`). -/
def renderChar (c : Char) : Bytes :=
  let n := c.toNat
  if n < 0x80 then
    if c == '"' then [92, 34]
    else if c == '\\' then [92, 92]
    else if n == 8 then [92, 98]
    else if n == 12 then [92, 102]
    else if n == 10 then [92, 110]
    else if n == 13 then [92, 114]
    else if n == 9 then [92, 116]
    else if n < 0x20 || c == '<' || c == '>' || c == '&' then [92, 117, 48, 48, hexLower (n / 16), hexLower (n % 16)]
    else [UInt8.ofNat n]
  else if n == 0x2028 then [92, 117, 50, 48, 50, 56]
  else if n == 0x2029 then [92, 117, 50, 48, 50, 57]
  else String.utf8EncodeChar c

def renderString (s : String) : Bytes := 34 :: (s.toList.flatMap renderChar) ++ [34]

mutual
def Json.render : Json → Bytes
  | .null => [110, 117, 108, 108]
  | .bool true => [116, 114, 117, 101]
  | .bool false => [102, 97, 108, 115, 101]
  | .num raw => strBytes raw
  | .str v _ => renderString v
  | .arr items => 91 :: renderItems items ++ [93]
  | .obj fs => 123 :: renderFields fs ++ [125]
def renderItems : List Json → Bytes
  | [] => []
  | [x] => x.render
  | x :: xs => x.render ++ 44 :: renderItems xs
def renderFields : List (String × Json) → Bytes
  | [] => []
  | [(k, v)] => renderString k ++ 58 :: v.render
  | (k, v) :: fs => renderString k ++ 58 :: v.render ++ 44 :: renderFields fs
end

/-- `types.MarshalJSON(cdc, &PayloadWrapper{Orbiter: p})`. -/
def marshalPayload (nilPass : Bool) (p : Payload) : Bytes := (encWrapper nilPass p).render

/-! ### the public constructors (types/core/orbiter.go, types/controller/{forwarding,action}/*.go) -/

/-- `core.NewForwarding`. -/
def newForwarding (pid : Int) (a : Attrs) (pass : Bytes) : Res Forwarding :=
  let f : Forwarding := { protocolId := pid, attrs := some a, passthrough := pass }
  f.validate >>= fun _ => pure f

/-- `NewCCTPForwarding`, `NewHyperlaneForwarding`, `NewInternalForwarding`: validated attributes, then `NewForwarding`. -/
def newAttrsForwarding (hrp : String) (orbAddr : Bytes) (pid : Int) (a : Attrs) (pass : Bytes) : Res Forwarding :=
  a.validate hrp orbAddr >>= fun _ => newForwarding pid a pass

/-- `core.NewAction`. -/
def newAction (id : Int) (a : Attrs) : Res Action :=
  let x : Action := { id := id, attrs := some a }
  x.validate >>= fun _ => pure x

/-- `NewFeeBasisPoints` / `NewFeeAmount`, then `NewFeeInfo`. -/
def newFeeInfo (hrp : String) (recipient : String) (ft : FeeType) : Res FeeInfo :=
  let f : FeeInfo := { recipient := recipient, feeType := ft }
  f.checkType >>= fun _ => f.validate hrp >>= fun _ => pure f

/-- `NewFeeAction`. -/
def newFeeAction (hrp : String) (infos : List FeeInfo) : Res Action :=
  validateFeeAttrs hrp infos >>= fun _ => newAction ACTION_FEE (.fee infos)

/-- `core.NewPayload` / `NewPayloadWrapper`. -/
def newPayload (f : Forwarding) (acts : List Action) : Res Payload :=
  let p : Payload := { forwarding := some f, preActions := acts }
  p.validate >>= fun _ => pure p

/-! ### text -/

/-- Printable ASCII. -/
def asciiPrintable (c : Char) : Bool := decide (0x20 ≤ c.toNat) && decide (c.toNat < 0x7F)

def strOk (v : String) : Bool := v.toList.all asciiPrintable

/-- The free-text fields of the attributes are printable ASCII (what every address, denomination, amount and hook
metadata accepted by validation is — `Lemmas/TextOk.lean`). -/
def FeeInfo.textOk (f : FeeInfo) : Bool := strOk f.recipient && (match f.feeType with | .amount s => strOk s | _ => true)

def Attrs.textOk : Attrs → Bool
  | .cctp .. => true
  | .hyp _ _ _ _ hmeta _ feeDenom _ => strOk hmeta && strOk feeDenom
  | .internal recipient => strOk recipient
  | .fee infos => infos.all FeeInfo.textOk

def Payload.textOk (p : Payload) : Bool :=
  p.preActions.all (fun a => match a.attrs with | some at_ => at_.textOk | none => true) &&
  (match p.forwarding with | some f => (match f.attrs with | some at_ => at_.textOk | none => true) | none => true)

/-! ### values the Go types can hold -/

def int32Fits (i : Int) : Bool := decide (-(2 ^ 31) ≤ i) && decide (i ≤ 2 ^ 31 - 1)

def FeeInfo.typed (f : FeeInfo) : Bool := match f.feeType with | .bps v => decide (v < 2 ^ 32) | _ => true

/-- The attribute values are within their Go types: `uint32` numbers, `math.Int`s of at most 256 bits. -/
def Attrs.typed : Attrs → Bool
  | .cctp domain _ _ => decide (domain < 2 ^ 32)
  | .hyp _ domain _ _ _ gas _ feeAmt => decide (domain < 2 ^ 32) && !overflows256 gas && !overflows256 feeAmt
  | .internal _ => true
  | .fee infos => infos.all FeeInfo.typed

def Action.typed (a : Action) : Bool :=
  int32Fits a.id && (match a.attrs with | some at_ => at_.isAction && at_.typed | none => true)

def Forwarding.typed (f : Forwarding) : Bool :=
  int32Fits f.protocolId && (match f.attrs with | some at_ => at_.isForwarding && at_.typed | none => true)

/-- A payload as the Go types can hold it (`*Payload` with its `Any`s resolved against the registry). -/
def Payload.typed (p : Payload) : Bool :=
  p.preActions.all Action.typed && (match p.forwarding with | some f => f.typed | none => true)

end Orbiter
