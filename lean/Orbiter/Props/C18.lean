/-
  C18 — The passthrough payload size limit in force is enforced.
  The limit in force is `limit o = o.params.getD 0` (missing parameters are read as 0). The check is the
  first statement of the before-transfer hook, which runs before the wrapped ICS-20 application.
-/
import Orbiter.Lemmas.Recv
import Orbiter.Lemmas.Genesis
import Orbiter.Props.C10
namespace Orbiter.C18
open Orbiter

def limit (o : OrbState) : Nat := o.params.getD 0

def passthroughOf (p : Payload) : Bytes := match p.forwarding with | some f => f.passthrough | none => []

/-- Coverage obligation: the default genesis of the built code has limit 0, as the model's default genesis. -/
theorem pin_default_limit : Gen.defaultMaxPassthroughPayloadSize = 0 ∧ ({} : Genesis).params = 0 := by decide

/-- The hook in terms of `limit` and `passthroughOf`. -/
theorem hook_eq (wr : Wiring) (φ : Faults) (o : OrbState) (c : Ctx) (t : TransferAttrs) (p : Payload) :
    beforeTransferHook wr φ o c t p =
    if limit o < (passthroughOf p).length then .err "adapter:passthrough-size"
    else if c.bank.bal wr.cfg.orbAddr t.dstDenom == 0 then .ok c
    else (c.call φ "bank.SendCoinsFromModuleToModule") >>= fun c1 =>
      c1.send wr.cfg.orbAddr wr.cfg.dustAddr t.dstDenom (c.bank.bal wr.cfg.orbAddr t.dstDenom) "adapter:sweep" :=
  beforeTransferHook_eq ..

/-- Too long ⇒ the hook refuses, before anything else happens in it (no sweep, no call). -/
theorem c18_hook_refuses (wr : Wiring) (φ : Faults) (o : OrbState) (c : Ctx) (t : TransferAttrs) (p : Payload)
    (h : (passthroughOf p).length > limit o) :
    beforeTransferHook wr φ o c t p = .err "adapter:passthrough-size" := by
  rw [hook_eq, if_pos h]

/-- Within the limit ⇒ the hook behaves exactly as with any other sufficient limit: the parameter is not
read anywhere else, so such a packet is never refused because of its passthrough size. -/
theorem c18_within_limit (wr : Wiring) (φ : Faults) (o : OrbState) (c : Ctx) (t : TransferAttrs) (p : Payload) (n : Nat)
    (h : (passthroughOf p).length ≤ limit o) (hn : (passthroughOf p).length ≤ n) :
    beforeTransferHook wr φ o c t p = beforeTransferHook wr φ { o with params := some n } c t p := by
  rw [hook_eq, hook_eq, if_neg (Nat.not_lt.mpr h),
    if_neg (show ¬ limit { o with params := some n } < (passthroughOf p).length from Nat.not_lt.mpr hn)]

/-- …and in particular the hook's result is not the size error: an error of the sweep carries the tag of the call or of the send. -/
theorem c18_within_limit_not_size_error (wr : Wiring) (φ : Faults) (o : OrbState) (c : Ctx) (t : TransferAttrs) (p : Payload)
    (h : (passthroughOf p).length ≤ limit o) :
    beforeTransferHook wr φ o c t p ≠ .err "adapter:passthrough-size" := by
  rw [hook_eq, if_neg (Nat.not_lt.mpr h)]
  split
  · exact fun hh => nomatch hh
  · cases hc : c.call φ "bank.SendCoinsFromModuleToModule" with
    | err e =>
      rw [Res.bind_err, Ctx.call_err hc]
      exact fun hh => absurd (Res.err.inj hh) (by decide)
    | panic e => exact fun hh => nomatch hh
    | ok c1 =>
      rw [Res.bind_ok]
      intro hh
      rcases Ctx.send_err hh with e | e <;> exact absurd e (by decide)

/-- Packet level: an orbiter packet over the limit gets an error acknowledgement and nothing is committed —
in particular the ICS-20 credit never happens (the hook runs first). -/
theorem c18_enforced (wr : Wiring) (φ : Faults) (w : World) (pkt : Packet) (t : TransferAttrs) (p : Payload)
    (hpk : adaptPacket wr pkt = .ok (.orbiter t p)) (h : (passthroughOf p).length > limit w.orb) :
    (ibcRecv wr φ w pkt).ack.isSuccess = false ∧ (ibcRecv wr φ w pkt).world = w := by
  refine ibcRecv_refused fun hs => ?_
  obtain ⟨s⟩ := ibcRecv_success_stages hs hpk
  have hb := s.hook
  rw [c18_hook_refuses wr φ w.orb (ctxOf w) t p h] at hb
  cases hb

/-- The acknowledgement is the middleware's own size error, produced with the context untouched: the
wrapped application was not called, no coin moved. -/
theorem c18_refused_before_credit (wr : Wiring) (φ : Faults) (o : OrbState) (c0 : Ctx) (pkt : Packet) (t : TransferAttrs) (p : Payload)
    (hpre : crossChainValid PROTOCOL_IBC pkt.dstChan = true) (hsrc : (pkt.srcPort == "" || pkt.srcChan == "") = false)
    (hpk : adaptPacket wr pkt = .ok (.orbiter t p)) (h : (passthroughOf p).length > limit o) :
    mwOnRecv wr φ o c0 pkt = { ack := .orbError "adapter:passthrough-size", ctx := c0, orb := o } := by
  unfold mwOnRecv
  have hr : PROTOCOL_IBC ∈ Gen.adapterRoutes := by decide
  simp [hpre, hsrc, hr, hpk, c18_hook_refuses wr φ o c0 t p h]

/-- With default parameters (or none stored) only an empty passthrough is accepted. -/
theorem c18_default (wr : Wiring) (φ : Faults) (o : OrbState) (c : Ctx) (t : TransferAttrs) (p : Payload)
    (hd : o.params = none ∨ o.params = some Gen.defaultMaxPassthroughPayloadSize) (hne : passthroughOf p ≠ []) :
    beforeTransferHook wr φ o c t p = .err "adapter:passthrough-size" := by
  apply c18_hook_refuses
  have : limit o = 0 := by rcases hd with h | h <;> simp [limit, h, Gen.defaultMaxPassthroughPayloadSize]
  rw [this]
  exact List.length_pos_iff.mpr hne

/-! ### the limit in force is the value most recently set -/

/-- Genesis sets the limit to the value it carries. -/
theorem c18_genesis_sets (g : Genesis) (o : OrbState) (h : initGenesis g = .ok o) : limit o = g.params := by
  simp [limit, initGenesis_params h]

/-- Receiving never changes the limit. -/
theorem c18_recv_preserves (wr : Wiring) (φ : Faults) (w : World) (pkt : Packet) :
    limit (ibcRecv wr φ w pkt).orb = limit w.orb := by
  unfold limit
  rw [(ibcRecv_sameAdmin wr φ w pkt).params]

/-- The specification of the limit: only an `UpdateParams` signed by the authority changes it. -/
def specLimit (auth : String) (l : Nat) : Op → Nat
  | .msg (.updateParams s n) => if s = auth then n else l
  | _ => l

/-- A successful `UpdateParams` sets the limit; none of the six writes of the other messages mentions the parameters. -/
theorem msg_limit {cfg : Cfg} {φ : Faults} {o o' : OrbState} {m : Msg} {evs : List String} {rq : List Req}
    (h : msgStep cfg φ o m = .ok (o', evs, rq)) : limit o' = specLimit cfg.authority (limit o) (.msg m) := by
  obtain ⟨hs, hw⟩ := msgStep_ok h
  cases hw with
  | updateParams => exact (if_pos hs).symm
  | pauseProtocol _ hf | unpauseProtocol _ hf | pauseCrossChains _ hf | unpauseCrossChains _ hf =>
    exact forwarderPause_preserves (Q := fun x => limit x = limit o)
      { pauseProtocol := fun hq _ _ => hq
        unpauseProtocol := fun hq _ => hq
        pauseCrossChain := fun hq _ _ => hq
        unpauseCrossChain := fun hq _ => hq } rfl hf
  | pauseAction _ ha =>
    rw [(setPausedAction_ok.mp ha).2.2]
    rfl
  | unpauseAction _ ha =>
    rw [(setUnpausedAction_ok.mp ha).2.2]
    rfl

/-- A message that fails leaves the specified limit alone: an `UpdateParams` by the authority cannot fail. -/
theorem specLimit_of_failed {cfg : Cfg} {φ : Faults} {o : OrbState} {m : Msg} (h : ∀ r, msgStep cfg φ o m ≠ .ok r) (l : Nat) :
    specLimit cfg.authority l (.msg m) = l := by
  cases m with
  | updateParams s n =>
    simp only [specLimit]
    split
    · rename_i hs
      subst hs
      exact absurd (C10.c10_authority_update_params cfg φ o n) (h _)
    · rfl
  | _ => rfl

theorem c18_step_limit (wr : Wiring) (φ : Faults) (w : World) (op : Op) :
    limit (step wr φ w op).2.orb = specLimit wr.cfg.authority (limit w.orb) op := by
  cases op with
  | recv pkt => exact c18_recv_preserves wr φ w pkt
  | deposit a d n => rfl
  | env e => rfl
  | reimport => exact (reimportStep_admin w.orb).1
  | msg m =>
    rcases step_msg_cases wr φ w m with ⟨hm, h⟩ | ⟨o', evs, rq, hm, h⟩ <;> rw [h]
    · exact (specLimit_of_failed hm _).symm
    · exact msg_limit hm

/-- **History.** After any sequence of operations — transfers, admin messages by anybody, deposits,
environment changes, export/import round trips — the limit in force is the value of the last
`UpdateParams` signed by the authority, or the initial (genesis) value when there was none. -/
theorem c18_history (wr : Wiring) (w : World) (ops : List Op) :
    limit (run wr w ops).orb = ops.foldl (specLimit wr.cfg.authority) (limit w.orb) := by
  induction ops generalizing w with
  | nil => rfl
  | cons op rest ih => rw [run_cons, ih, c18_step_limit, List.foldl_cons]

example : specLimit "gov" 3 (.msg (.updateParams "gov" 7)) = 7 ∧ specLimit "gov" 3 (.msg (.updateParams "eve" 7)) = 3 := by decide
example : passthroughOf { preActions := [], forwarding := some { protocolId := 2, attrs := none, passthrough := [1, 2] } } = [1, 2] := rfl

end Orbiter.C18
