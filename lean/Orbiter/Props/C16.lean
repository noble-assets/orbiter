/-
  C16 — Only returning Noble-native tokens are processed, under the coin ICS-20 credits.
-/
import Orbiter.Lemmas.Recv
namespace Orbiter.C16
open Orbiter

/-- The decision: a denomination is accepted exactly when it is the packet's own (source port, source
channel) prefix followed by a denomination without any further trace. -/
theorem c16_accept_iff (denom port chan native : String) :
    recoverNativeDenom denom port chan = .ok native ↔
      (denom.startsWith (denomPrefix port chan) = true ∧
       native = (denom.drop (denomPrefix port chan).length).toString ∧ (parseDenomTrace native).1 = "") := by
  simp only [recoverNativeDenom, Res.ite_err_eq_ok, Res.ok.injEq, Bool.not_eq_true', Bool.not_eq_false, bne_iff_ne, ne_eq,
    Decidable.not_not]
  exact ⟨fun ⟨h1, h2, h3⟩ => ⟨h1, h3.symm, h3 ▸ h2⟩, fun ⟨h1, h2, h3⟩ => ⟨h1, h2 ▸ h3, h2.symm⟩⟩

/-- Tokens native to the sending chain (no such prefix) and tokens with a longer trace are refused: the
adapter returns an error, so the middleware answers with an error acknowledgement before anything moves. -/
theorem c16_refused (wr : Wiring) (pkt : Packet) (t : TransferAttrs) (p : Payload)
    (ha : adaptPacket wr pkt = .ok (.orbiter t p)) :
    ∃ d, decFTPD pkt.data = some d ∧ d.denom.startsWith (denomPrefix pkt.srcPort pkt.srcChan) = true ∧
      t.srcDenom = (d.denom.drop (denomPrefix pkt.srcPort pkt.srcChan).length).toString ∧ (parseDenomTrace t.srcDenom).1 = "" := by
  obtain ⟨k⟩ := adaptPacket_ok ha
  obtain ⟨h1, h2, h3⟩ := (c16_accept_iff _ _ _ _).mp k.denom
  exact ⟨k.d, k.decoded, h1, h2, h3⟩

/-- The coin the orbiter acts on is the coin ICS-20 credits: when the adapter accepted the packet and the
wrapped ICS-20 application succeeded, the one movement ICS-20 made is the release of exactly
`t.srcAmount` of `t.srcDenom` from the channel's escrow account to the receiver, and the attributes start
with that same coin as destination coin. -/
theorem c16_same_coin (wr : Wiring) (c c' : Ctx) (pkt : Packet) (t : TransferAttrs) (p : Payload)
    (ha : adaptPacket wr pkt = .ok (.orbiter t p)) (hi : ics20Recv wr.cfg c pkt = .ok c') :
    c'.moves = c.moves ++ [.xfer (wr.cfg.escrow pkt.dstPort pkt.dstChan) wr.cfg.orbAddr t.srcDenom t.srcAmount.toNat] ∧
    t.dstDenom = t.srcDenom ∧ t.dstAmount = t.srcAmount ∧
    c.bank.send (wr.cfg.escrow pkt.dstPort pkt.dstChan) wr.cfg.orbAddr t.srcDenom t.srcAmount.toNat = some c'.bank := by
  obtain ⟨k⟩ := adaptPacket_ok ha
  obtain ⟨h1, h2, h3⟩ := (c16_accept_iff _ _ _ _).mp k.denom
  have hden : ibcDenom wr.cfg (k.d.denom.drop (denomPrefix pkt.srcPort pkt.srcChan).length).toString = t.srcDenom := by
    rw [← h2]; exact ibcDenom_native h3
  obtain ⟨d', amt, r, hd', hamt', hr', ⟨_, c1, f, hs, rfl⟩ | ⟨hn, _⟩⟩ := ics20Recv_ok hi
  · cases k.decoded.symm.trans hd'
    cases k.amount.symm.trans hamt'
    cases k.receiver.symm.trans hr'
    rw [hden] at hs
    obtain ⟨b, hb, rfl⟩ := Ctx.send_ok hs
    exact ⟨rfl, k.dstDenom, k.dstAmount, hb⟩
  · cases k.decoded.symm.trans hd'
    rw [h1] at hn; cases hn

/-- …and so is the one movement of the wrapped application as a whole. -/
theorem wrappedApp_steps {wr : Wiring} {φ : Faults} {c c' : Ctx} {pkt : Packet} {t : TransferAttrs} {p : Payload}
    (ha : adaptPacket wr pkt = .ok (.orbiter t p)) (hw : wrappedApp wr φ c pkt = .ok c') :
    Ctx.Steps c c' [.xfer (wr.cfg.escrow pkt.dstPort pkt.dstChan) wr.cfg.orbAddr t.srcDenom t.srcAmount.toNat] := by
  obtain ⟨c0, h0, hi⟩ := wrappedApp_ok hw
  have e := Ctx.call_eff h0
  obtain ⟨hm, _, _, hb⟩ := c16_same_coin wr c0 c' pkt t p ha hi
  exact ⟨by rw [hm, e.moves, List.append_nil], by rw [Ledger.replay_singleton, ← e.bank_eq]; exact hb⟩

/-- **End to end.** When an orbiter packet is acknowledged with success — on any wiring, with any faults
injected — the stages were: the sweep, then the wrapped ICS-20 application whose one movement is the
release of exactly `t.srcAmount` of `t.srcDenom` from the channel's escrow account to the orbiter account,
then the dispatch of the payload with attributes `t`. At the moment the dispatch begins, the orbiter's whole
balance in that denomination is exactly that credit: the coin the orbiter acts on is the coin — and all the
coin — ICS-20 credited. -/
theorem c16_balance_is_credit (wr : Wiring) (φ : Faults) (w : World) (pkt : Packet) (t : TransferAttrs) (p : Payload)
    (hesc : wr.cfg.escrow pkt.dstPort pkt.dstChan ≠ wr.cfg.orbAddr) (hdust : wr.cfg.dustAddr ≠ wr.cfg.orbAddr)
    (hs : (ibcRecv wr φ w pkt).ack.isSuccess = true) (ha : adaptPacket wr pkt = .ok (.orbiter t p)) :
    ∃ c1 c2 c3 t3, beforeTransferHook wr φ w.orb (ctxOf w) t p = .ok c1 ∧ wrappedApp wr φ c1 pkt = .ok c2 ∧
      dispatchPayload wr φ w.orb c2 t p = .ok (c3, t3, (ibcRecv wr φ w pkt).orb) ∧
      c2.moves = c1.moves ++ [.xfer (wr.cfg.escrow pkt.dstPort pkt.dstChan) wr.cfg.orbAddr t.srcDenom t.srcAmount.toNat] ∧
      c2.bank.bal wr.cfg.orbAddr t.srcDenom = t.srcAmount.toNat ∧
      t.dstDenom = t.srcDenom ∧ t.dstAmount = t.srcAmount := by
  obtain ⟨st⟩ := ibcRecv_success_stages hs ha
  obtain ⟨k⟩ := adaptPacket_ok ha
  have hdd := k.dstDenom
  have s := wrappedApp_steps ha st.app
  refine ⟨st.c1, st.c2, st.c4, st.t', st.hook, st.app, st.dispatch, s.moves, ?_, hdd, k.dstAmount⟩
  -- the sweep leaves nothing of the denomination on the orbiter account; the release adds the packet's coin
  have hzero : st.c1.bank.bal wr.cfg.orbAddr t.srcDenom = 0 := by
    rw [beforeTransferHook_bal hdust st.hook, hdd, if_pos ⟨rfl, rfl⟩]
  have hne : ¬ wr.cfg.orbAddr = wr.cfg.escrow pkt.dstPort pkt.dstChan := fun e => hesc e.symm
  rw [Ledger.send_bal s.send_eq wr.cfg.orbAddr t.srcDenom, hzero]
  simp [hne]

/-! ### non-vacuity
`String.startsWith` / `String.drop` do not reduce in the kernel, so the satisfiability of the hypotheses is
exhibited by the correspondence stream instead (evidence: accepted one-hop vouchers, refused native and
multi-hop denominations, on the implementation and on this model alike). -/

end Orbiter.C16
