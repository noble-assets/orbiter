/-
  C05 — The outgoing bridge request carries exactly the user's route and parameters.
  `expectedReq t f` is the specification: the request as the payload and the post-action attributes
  determine it, with the orbiter account as sender. On the chain's own wiring a successful forwarder run
  records exactly that request and no other; where `expectedReq` is undefined (attributes of another
  protocol, a protocol without controller) the forwarder never succeeds.
-/
import Orbiter.Lemmas.Recv
import Orbiter.Expect
namespace Orbiter.C05
open Orbiter

/-- Coverage obligation: the routes registered by the built application are the ones the model wires. -/
theorem pin_routes : Gen.forwardingRoutes = [PROTOCOL_CCTP, PROTOCOL_HYPERLANE, PROTOCOL_INTERNAL] ∧
    Gen.actionRoutes = [ACTION_FEE] ∧ Gen.adapterRoutes = [PROTOCOL_IBC] := ⟨rfl, rfl, rfl⟩

/-- Coverage obligation: everything the module can ask of the bank, CCTP, the warp module and the bank's message server is a method
of these interfaces, and each has a contract in `Recv.lean` (table at `modelExternalSurface`): a call through a helper the model
has no contract for shows here before it shows anywhere else. -/
theorem pin_external_surface : Gen.externalSurface = modelExternalSurface := rfl

/-- The request the payload asks for: parameters verbatim, post-action coin, orbiter as sender. -/
def expectedReq (t : TransferAttrs) (f : Forwarding) : Option Req :=
  match f.attrs with
  | some (.cctp domain mint caller) =>
    if f.protocolId = PROTOCOL_CCTP then
      some (Req.cctp "orbiter" t.dstAmount domain mint t.dstDenom (if caller.isEmpty then none else some caller))
    else none
  | some (.hyp tok domain rec_ hook hmeta gas feeDenom feeAmt) =>
    if f.protocolId = PROTOCOL_HYPERLANE then
      some (Req.warp "orbiter" tok domain rec_ t.dstAmount (if hook.isEmpty then none else some hook) gas feeDenom feeAmt hmeta)
    else none
  | some (.internal recipient) =>
    if f.protocolId = PROTOCOL_INTERNAL then some (Req.bankSend "orbiter" recipient t.dstDenom t.dstAmount) else none
  | _ => none

theorem c05_cctp_request (cfg : Cfg) (φ : Faults) (c c' : Ctx) (t : TransferAttrs) (f : Forwarding)
    (h : cctpController cfg φ c t f = .ok c') :
    ∃ domain mint caller, f.attrs = some (.cctp domain mint caller) ∧
      c'.reqs = c.reqs ++ [Req.cctp "orbiter" t.dstAmount domain mint t.dstDenom (if caller.isEmpty then none else some caller)] := by
  obtain ⟨_, e, domain, mint, caller, hfa, rfl⟩ := cctpController_eff h
  exact ⟨domain, mint, caller, hfa, e.reqs⟩

theorem c05_hyp_request (cfg : Cfg) (φ : Faults) (c c' : Ctx) (t : TransferAttrs) (f : Forwarding)
    (h : hypController cfg φ c t f = .ok c') :
    ∃ tok domain rec_ hook hmeta gas feeDenom feeAmt, f.attrs = some (.hyp tok domain rec_ hook hmeta gas feeDenom feeAmt) ∧
      c'.reqs = c.reqs ++ [Req.warp "orbiter" tok domain rec_ t.dstAmount (if hook.isEmpty then none else some hook) gas feeDenom feeAmt hmeta] := by
  obtain ⟨_, _, _, e, tok, domain, rec_, hook, hmeta, gas, feeDenom, feeAmt, hfa, rfl⟩ := hypController_eff h
  exact ⟨tok, domain, rec_, hook, hmeta, gas, feeDenom, feeAmt, hfa, e.reqs⟩

theorem c05_internal_request (cfg : Cfg) (φ : Faults) (c c' : Ctx) (t : TransferAttrs) (f : Forwarding)
    (h : internalController cfg φ c t f = .ok c') :
    ∃ recipient, f.attrs = some (.internal recipient) ∧
      c'.reqs = c.reqs ++ [Req.bankSend "orbiter" recipient t.dstDenom t.dstAmount] := by
  obtain ⟨_, _, _, e, recipient, hfa, rfl⟩ := internalController_eff h
  exact ⟨recipient, hfa, e.reqs⟩

/-- **The request.** On the chain's wiring, a forwarder run that succeeds used the controller of the
payload's protocol identifier and recorded exactly one request: the expected one. -/
theorem c05_request (cfg : Cfg) (π : OneofOrder) (φ : Faults) (o : OrbState) (c c' : Ctx) (t : TransferAttrs) (f : Forwarding)
    (h : forwarderHandle (appWiring cfg π) φ o c t f = .ok c') :
    ∃ r, expectedReq t f = some r ∧ c'.reqs = c.reqs ++ [r] := by
  rcases forwarderHandle_app_ok h with ⟨hid, h⟩ | ⟨hid, h⟩ | ⟨hid, h⟩
  · obtain ⟨_, _, _, hfa, hr⟩ := c05_cctp_request cfg φ c c' t f h
    exact ⟨_, by simp [expectedReq, hfa, hid], hr⟩
  · obtain ⟨_, _, _, _, _, _, _, _, hfa, hr⟩ := c05_hyp_request cfg φ c c' t f h
    exact ⟨_, by simp [expectedReq, hfa, hid], hr⟩
  · obtain ⟨_, hfa, hr⟩ := c05_internal_request cfg φ c c' t f h
    exact ⟨_, by simp [expectedReq, hfa, hid], hr⟩

/-- Attributes of a different protocol than the identifier, or an identifier without a controller on this
chain (IBC as outgoing route, unknown numbers): refused. -/
theorem c05_mismatch_refused (cfg : Cfg) (π : OneofOrder) (φ : Faults) (o : OrbState) (c c' : Ctx) (t : TransferAttrs) (f : Forwarding)
    (hm : expectedReq t f = none) : forwarderHandle (appWiring cfg π) φ o c t f ≠ .ok c' := by
  intro h
  obtain ⟨r, hr, _⟩ := c05_request cfg π φ o c c' t f h
  rw [hm] at hr; cases hr

/-- The only action with a controller on this chain is the fee action: a payload naming any other action
(swap, unknown numbers) is refused. -/
theorem c05_unrouted_action_refused (cfg : Cfg) (π : OneofOrder) (φ : Faults) (o : OrbState) (c : Ctx) (t : TransferAttrs) (a : Action)
    (hne : a.id ≠ ACTION_FEE) (r : Ctx × TransferAttrs) : executorHandle (appWiring cfg π) φ o c t a ≠ .ok r := by
  exact fun h => hne (executorHandle_app_ok h).1

/-- The deposit-replacement message reaches CCTP with exactly its fields and the orbiter account as owner
(the request as built; its acceptance by the CCTP module is outside the model). -/
theorem c05_replace_request (s : String) (a b c d : Bytes) :
    replaceRequest (.replaceDepositForBurn s a b c d) = some ("orbiter", a, b, c, d) := rfl

/-! ### non-vacuity -/
example : expectedReq { srcProtocol := 1, srcCounterparty := "channel-0", srcDenom := "uusdc", srcAmount := 100, dstDenom := "uusdc", dstAmount := 99 }
    { protocolId := 2, attrs := some (.cctp 5 [1] []), passthrough := [] } = some (Req.cctp "orbiter" 99 5 [1] "uusdc" none) := by decide
example : expectedReq { srcProtocol := 1, srcCounterparty := "channel-0", srcDenom := "uusdc", srcAmount := 100, dstDenom := "uusdc", dstAmount := 99 }
    { protocolId := 3, attrs := some (.cctp 5 [1] []), passthrough := [] } = none := by decide

end Orbiter.C05
