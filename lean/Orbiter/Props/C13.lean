/-
  C13 — Statistics queries and pagination are faithful views of the ledger.
  Proved here, for the model of the queries and of `query.CollectionPaginate`:
  * the direct lookups return the stored entry exactly when it is non-zero;
  * a listing restricted to a protocol selects exactly the entries of that protocol (the 4-byte key prefix
    decides it, and the prefix encoding is injective on the protocol numbers that can be stored);
  * offset pagination, forward and reverse, for every page size: page k is the k-th chunk of the matching
    entries, the pages tile the listing without omission or repetition, `next` is empty exactly at the
    end, and the reported total is the number of matching entries.
  * pagination by key, forward: on a listing sorted by key (every reachable store is: `OrbState.Srt`), the page
    requested with the `next` key of the previous page starts exactly at the entry that key names, so the
    pages again tile the matching entries.
  * pagination by key, in reverse: the property is FALSE of the code and of the model (known finding C13, a defect of
    the SDK's paginator). Proved instead: `c13_key_page_reverse_actual` — what a reverse page requested by key returns for
    every listing (the entries that *start with* the named key come first, then the named entry, then what precedes it);
    `c13_key_page_reverse_partial` — the page is the right one whenever the named key is not a proper prefix of a later
    key of the listing; `c13_reverse_key_revisits` — the negation of the full statement on a concrete two-entry listing
    (the walk returns the same entry and the same next key for ever; the same keys replayed on the implementation are the
    known finding's replay).
-/
import Orbiter.Lemmas.Sorted
import Orbiter.Lemmas.PrefixEnd
namespace Orbiter.C13
open Orbiter

/-! ### direct lookups -/

theorem c13_direct_counts (o : OrbState) (sp scp dp dcp : String) (s d : Int)
    (hs : protocolIdFromString sp = some s) (hd : protocolIdFromString dp = some d)
    (hvs : crossChainValid s scp = true) (hvd : crossChainValid d dcp = true) :
    queryStep o (.dispatchedCounts sp scp dp dcp) =
      (if lookupD o.counts { srcProto := s, srcCp := scp, dstProto := d, dstCp := dcp } 0 = 0 then .err "query:not-found"
       else .ok (.cnts [{ src := (s, scp), dst := (d, dcp),
                          count := lookupD o.counts { srcProto := s, srcCp := scp, dstProto := d, dstCp := dcp } 0 }] none)) := by
  simp only [queryStep, hs, hd, hvs, hvd, Bool.not_true, Bool.false_eq_true, ↓reduceIte, beq_iff_eq]

theorem c13_direct_amounts (o : OrbState) (sp scp dp dcp denom : String) (s d : Int) (hden : denom ≠ "")
    (hs : protocolIdFromString sp = some s) (hd : protocolIdFromString dp = some d)
    (hvs : crossChainValid s scp = true) (hvd : crossChainValid d dcp = true) :
    queryStep o (.dispatchedAmounts sp scp dp dcp denom) =
      (let v := lookupD o.amounts { srcProto := s, srcCp := scp, dstId := ccidString d dcp, denom := denom } (0, 0)
       if v.1 > 0 ∨ v.2 > 0 then .ok (.amts [{ src := (s, scp), dst := (d, dcp), denom := denom, incoming := v.1, outgoing := v.2 }] none)
       else .err "query:not-found") := by
  have hden' : (denom == "") = false := by simpa using hden
  simp only [queryStep, hden', hs, hd, hvs, hvd, Bool.not_true, Bool.false_eq_true, ↓reduceIte, Bool.not_eq_true',
    Bool.or_eq_false_iff, decide_eq_false_iff_not, ← not_or, ite_not]

/-! ### offset pagination tiles the matching entries -/

/-- The entries of a listing that match the prefix, in the order the paginator walks them. -/
def matching {α} (entries : List (Bytes × α)) (pre : Bytes) (reverse : Bool) : List (Bytes × α) :=
  let inPrefix := entries.filter fun e => e.1.take pre.length == pre
  if reverse then inPrefix.reverse else inPrefix

def pageReq (L k : Nat) (reverse countTotal : Bool) : PageReq :=
  { key := [], offset := k * L, limit := L, countTotal := countTotal, reverse := reverse }

theorem matching_false {α} (entries : List (Bytes × α)) (pre : Bytes) :
    matching entries pre false = entries.filter fun e => e.1.take pre.length == pre := rfl

theorem matching_true {α} (entries : List (Bytes × α)) (pre : Bytes) :
    matching entries pre true = (entries.filter fun e => e.1.take pre.length == pre).reverse := rfl

theorem mem_matching {α} {entries : List (Bytes × α)} {pre : Bytes} {reverse : Bool} {e : Bytes × α}
    (h : e ∈ matching entries pre reverse) : e ∈ entries := by
  cases reverse
  · rw [matching_false] at h
    exact (List.mem_filter.mp h).1
  · rw [matching_true] at h
    exact (List.mem_filter.mp (List.mem_reverse.mp h)).1

/-- An offset request is answered from `matching`. -/
theorem paginate_offset {α} (entries : List (Bytes × α)) (pre : Bytes) (L k : Nat) (reverse ct : Bool) (hL : 0 < L) :
    paginate entries pre (pageReq L k reverse ct) =
      if matching entries pre reverse = [] ∨ (matching entries pre reverse).length < k * L then
        some { items := [], next := [], total := 0 }
      else some {
        items := (((matching entries pre reverse).drop (k * L)).take L).map (·.2)
        next := match ((matching entries pre reverse).drop (k * L)).drop L with | e :: _ => e.1.drop pre.length | [] => []
        total := if ct then ((matching entries pre reverse).drop (k * L)).length + k * L else 0 } := by
  have hL0 : (L == 0) = false := by simpa using Nat.ne_of_gt hL
  simp only [paginate, pageReq, matching, hL0, Bool.false_eq_true, ↓reduceIte, List.isEmpty_nil, Bool.not_true, Bool.and_false,
    Bool.or_eq_true, List.isEmpty_iff, gt_iff_lt, decide_eq_true_eq]
  -- the two sides now differ only in which compiled `match` they name (that of `paginate`, that of this statement)
  rfl

/-- Offset page `k` (size `L > 0`) is exactly the `k`-th chunk of the matching entries; `next` is empty
exactly when nothing follows; the total (when asked for) is the number of matching entries. -/
theorem c13_offset_page {α} (entries : List (Bytes × α)) (pre : Bytes) (L k : Nat) (reverse ct : Bool) (hL : 0 < L)
    (hlong : ∀ e ∈ entries, pre.length < e.1.length)
    (hk : k * L < (matching entries pre reverse).length) :
    ∃ r, paginate entries pre (pageReq L k reverse ct) = some r ∧
      r.items = (((matching entries pre reverse).drop (k * L)).take L).map (·.2) ∧
      (r.next = [] ↔ (matching entries pre reverse).length ≤ (k + 1) * L) ∧
      (ct = true → r.total = (matching entries pre reverse).length) := by
  rw [paginate_offset entries pre L k reverse ct hL, if_neg (by rw [← List.length_eq_zero_iff]; omega)]
  refine ⟨_, rfl, rfl, ?_, ?_⟩
  · -- `next` is empty exactly when nothing is left: the key of an entry left over is longer than the prefix
    rw [Nat.add_mul, Nat.one_mul, ← List.drop_eq_nil_iff, ← List.drop_drop]
    cases hd : ((matching entries pre reverse).drop (k * L)).drop L with
    | nil => exact ⟨fun _ => rfl, fun _ => rfl⟩
    | cons e rest =>
      have hmem : e ∈ matching entries pre reverse :=
        List.mem_of_mem_drop (List.mem_of_mem_drop (hd ▸ List.mem_cons_self))
      have := hlong e (mem_matching hmem)
      refine ⟨fun hnext => ?_, fun h => nomatch h⟩
      have hl := congrArg List.length hnext
      simp only [List.length_drop, List.length_nil] at hl
      omega
  · intro hct
    simp only [hct, ↓reduceIte, List.length_drop]
    omega

/-- The pages tile the listing: the first `n` pages, concatenated, are the first `n·L` matching entries —
nothing omitted, nothing repeated, in order. -/
theorem c13_pages_tile {β} (l : List β) (L : Nat) (n : Nat) :
    ((List.range n).map fun k => (l.drop (k * L)).take L).flatten = l.take (n * L) := by
  induction n with
  | zero => simp
  | succ n ih =>
    rw [List.range_succ, List.map_append, List.flatten_append, ih]
    simp only [List.map_cons, List.map_nil, List.flatten_cons, List.flatten_nil, List.append_nil]
    rw [Nat.succ_mul, List.take_add]

/-- Past the end the paginator returns an empty page. -/
theorem c13_offset_past_end {α} (entries : List (Bytes × α)) (pre : Bytes) (L k : Nat) (reverse ct : Bool) (hL : 0 < L)
    (hk : (matching entries pre reverse).length ≤ k * L) :
    ∃ r, paginate entries pre (pageReq L k reverse ct) = some r ∧ r.items = [] ∧ r.next = [] := by
  rw [paginate_offset entries pre L k reverse ct hL]
  split
  · exact ⟨_, rfl, rfl, rfl⟩
  · have hd : (matching entries pre reverse).drop (k * L) = [] := List.drop_eq_nil_iff.mpr hk
    refine ⟨_, rfl, ?_, ?_⟩
    · simp [hd]
    · simp [hd]

/-! ### the protocol filter of a listing is exact -/

/-- Keys whose encoding starts with the 4 bytes of their source protocol: the prefix filter of a by-source listing selects by
protocol. -/
theorem matching_by_source {κ ν} (enc : κ → Bytes) (src : κ → Int) (m : List (κ × ν)) (p : Int) (hp : protocolValid p = true)
    (htake : ∀ k, (enc k).take 4 = encInt32 (src k)) (hv : ∀ e ∈ m, protocolValid (src e.1) = true) :
    matching (m.map fun e => (enc e.1, e)) (encInt32 p) false = (m.filter fun e => src e.1 == p).map fun e => (enc e.1, e) := by
  rw [matching_false, List.filter_map]
  congr 1
  apply List.filter_congr
  intro e he
  simp only [Function.comp, encInt32_length, htake]
  rw [Bool.eq_iff_iff, beq_iff_eq, beq_iff_eq]
  exact encInt32_eq_iff_of_protocolValid (hv e he) hp

/-- The by-source listing of the counts walks exactly the stored entries whose source protocol is `p`, in
store order: no omission, no foreign entry. -/
theorem c13_counts_by_source_exact (o : OrbState) (hi : o.Inv) (p : Int) (hp : protocolValid p = true) :
    matching (o.counts.map fun e => (e.1.enc, e)) (encInt32 p) false =
      (o.counts.filter fun e => e.1.srcProto == p).map fun e => (e.1.enc, e) :=
  matching_by_source CntKey.enc CntKey.srcProto o.counts p hp take_prefix_cnt
    fun e he => crossChainValid_protocol (hi.cnt_valid e he).src

theorem c13_amounts_by_source_exact (o : OrbState) (hi : o.Inv) (p : Int) (hp : protocolValid p = true) :
    matching (o.amounts.map fun e => (e.1.enc, e)) (encInt32 p) false =
      (o.amounts.filter fun e => e.1.srcProto == p).map fun e => (e.1.enc, e) :=
  matching_by_source AmtKey.enc AmtKey.srcProto o.amounts p hp take_prefix_amt
    fun e he => crossChainValid_protocol (hi.amt_valid e he).src

/-- …and every listed entry decodes (no listing fails on a reachable ledger). -/
theorem c13_entries_decode (o : OrbState) (hi : o.Inv) :
    (∀ e ∈ o.counts, (cntEntryOfKey e.1 e.2).isSome = true) ∧ (∀ e ∈ o.amounts, (amtEntryOfKey e.1 e.2).isSome = true) := by
  constructor
  · intro e he
    obtain ⟨c, hc, _⟩ := cntEntryOfKey_of_entryValid (hi.cnt_valid e he)
    rw [hc]
    rfl
  · intro e he
    obtain ⟨a, ha, _⟩ := amtEntryOfKey_of_entryValid (hi.amt_valid e he)
    rw [ha]
    rfl

/-! ### pagination by key -/

/-- In a list sorted by key, the entries not below the key of `x` are `x` and what follows it. -/
theorem filter_ge_sorted {α} (l₁ l₂ : List (Bytes × α)) (x : Bytes × α)
    (hs : (l₁ ++ x :: l₂).Pairwise fun a b => bytesLt a.1 b.1 = true) :
    (l₁ ++ x :: l₂).filter (fun e => bytesLe x.1 e.1) = x :: l₂ := by
  rw [List.pairwise_append, List.pairwise_cons] at hs
  obtain ⟨_, ⟨h2, _⟩, h3⟩ := hs
  rw [List.filter_append, List.filter_eq_nil_iff.mpr fun e he => by simp [bytesLe, h3 e he x List.mem_cons_self],
    List.nil_append, List.filter_eq_self]
  intro e he
  rcases List.mem_cons.mp he with rfl | hm
  · simp [bytesLe, bytesLt_irrefl]
  · simp [bytesLe, bytesLt_strict.asymm (h2 e hm)]

/-- In a list sorted by key, the entries below the exclusive end `PrefixEndBytes` computes for the key of `x` are what
precedes `x`, `x` itself **and every later entry whose key starts with the key of `x`**. -/
theorem filter_lt_prefixEnd_sorted {α} (l₁ l₂ : List (Bytes × α)) (x : Bytes × α) (f : Bytes × α → Bool)
    (hf : ∀ e, f e = match prefixEnd x.1 with | some h => bytesLt e.1 h | none => true)
    (hs : (l₁ ++ x :: l₂).Pairwise fun a b => bytesLt a.1 b.1 = true) :
    (l₁ ++ x :: l₂).filter f = l₁ ++ x :: l₂.filter (fun e => x.1.isPrefixOf e.1) := by
  have hadm : ∀ e, f e = true ↔ (bytesLt x.1 e.1 = false ∨ x.1 <+: e.1) := fun e => by
    rw [hf]
    -- not `rw`: this `match` and the lemma's are two compiled matchers, equal by unfolding only
    exact admits_prefixEnd x.1 e.1
  rw [List.pairwise_append, List.pairwise_cons] at hs
  obtain ⟨_, ⟨h2, _⟩, h3⟩ := hs
  rw [List.filter_append, List.filter_cons, if_pos ((hadm x).mpr (Or.inl (bytesLt_irrefl _))),
    List.filter_eq_self.mpr fun e he => (hadm e).mpr (Or.inl (bytesLt_strict.asymm (h3 e he x List.mem_cons_self)))]
  congr 2
  refine List.filter_congr fun e he => ?_
  rw [Bool.eq_iff_iff, hadm, h2 e he, List.isPrefixOf_iff_prefix]
  simp

/-- A request by the key of a matching entry `x`, on a sorted listing. The paginator walks, forward, the matching entries not below
the key: `x` and what follows it; in reverse, those below the exclusive end `PrefixEndBytes` computes for the key, backwards. -/
theorem paginate_key {α} (entries : List (Bytes × α)) (pre : Bytes) (L : Nat) (hL : 0 < L) (rev : Bool)
    (hsorted : entries.Pairwise fun a b => bytesLt a.1 b.1 = true)
    (l₁ l₂ : List (Bytes × α)) (x : Bytes × α) (hsplit : matching entries pre false = l₁ ++ x :: l₂)
    (hlong : pre.length < x.1.length) :
    let range := if rev then (l₂.filter fun e => x.1.isPrefixOf e.1).reverse ++ x :: l₁.reverse else x :: l₂
    paginate entries pre { key := x.1.drop pre.length, limit := L, reverse := rev } =
      some { items := (range.take L).map (·.2), next := match range.drop L with | e :: _ => e.1.drop pre.length | [] => [], total := 0 } := by
  rw [matching_false] at hsplit
  have hsf : (l₁ ++ x :: l₂).Pairwise fun a b => bytesLt a.1 b.1 = true := hsplit ▸ hsorted.sublist List.filter_sublist
  have hxpre : x.1.take pre.length = pre := by
    have hx : x ∈ entries.filter fun e => e.1.take pre.length == pre := hsplit ▸ List.mem_append_right _ List.mem_cons_self
    simpa using (List.mem_filter.mp hx).2
  have hkey : pre ++ x.1.drop pre.length = x.1 := by
    have := List.take_append_drop pre.length x.1
    rwa [hxpre] at this
  have hne : (x.1.drop pre.length).isEmpty = false := by
    rw [Bool.eq_false_iff, Ne, List.isEmpty_iff_length_eq_zero, List.length_drop]
    omega
  have hL0 : (L == 0) = false := by simpa using Nat.ne_of_gt hL
  simp only [paginate, hL0, Bool.false_eq_true, ↓reduceIte, Nat.lt_irrefl, decide_false, Bool.false_and, hne,
    Bool.not_false, hkey, hsplit]
  -- each case ends as `paginate_offset` does
  cases rev
  · simp only [Bool.false_eq_true, ↓reduceIte, filter_ge_sorted l₁ l₂ x hsf]
    rfl
  · simp only [↓reduceIte]
    rw [filter_lt_prefixEnd_sorted l₁ l₂ x _ (fun _ => by rfl) hsf,
      List.reverse_append, List.reverse_cons, List.append_assoc, List.singleton_append]
    rfl

/-- A forward page requested by key starts exactly at the entry the key names. -/
theorem c13_key_page {α} (entries : List (Bytes × α)) (pre : Bytes) (L : Nat) (hL : 0 < L)
    (hsorted : entries.Pairwise fun a b => bytesLt a.1 b.1 = true)
    (l₁ l₂ : List (Bytes × α)) (x : Bytes × α) (hsplit : matching entries pre false = l₁ ++ x :: l₂)
    (hlong : pre.length < x.1.length) :
    ∃ r, paginate entries pre { key := x.1.drop pre.length, limit := L } = some r ∧
      r.items = ((x :: l₂).take L).map (·.2) ∧
      r.next = (match (x :: l₂).drop L with | e :: _ => e.1.drop pre.length | [] => []) :=
  ⟨_, paginate_key entries pre L hL false hsorted l₁ l₂ x hsplit hlong, rfl, rfl⟩

/-- The stored counts, as the by-source listing sees them, are sorted by key in every good state. -/
theorem c13_counts_listing_sorted (o : OrbState) (hg : o.Good) :
    (o.counts.map fun e => (e.1.enc, e)).Pairwise fun a b => bytesLt a.1 b.1 = true :=
  List.pairwise_map.mpr (sortedBy_keys.mp hg.2.cnt)

theorem c13_amounts_listing_sorted (o : OrbState) (hg : o.Good) :
    (o.amounts.map fun e => (e.1.enc, e)).Pairwise fun a b => bytesLt a.1 b.1 = true :=
  List.pairwise_map.mpr (sortedBy_keys.mp hg.2.amt)

/-! ### the by-destination index -/

/-- The by-destination listing of the counts walks exactly the stored entries whose destination protocol
is `p` (as a set; the index order is the order of the index keys) and has as many index entries as the
store has entries — no entry is indexed twice or dropped. -/
theorem c13_counts_by_destination_exact (o : OrbState) (hi : o.Inv) (p : Int) (hp : protocolValid p = true) (x : Bytes × (CntKey × Nat)) :
    x ∈ matching (sortBy (fun a b => bytesLt a.1 b.1) (o.counts.map fun e => (encInt32 e.1.dstProto ++ e.1.enc, e))) (encInt32 p) false ↔
      (x.2 ∈ o.counts ∧ x.2.1.dstProto = p ∧ x.1 = encInt32 x.2.1.dstProto ++ x.2.1.enc) := by
  simp only [matching_false, List.mem_filter, mem_sortBy, List.mem_map, encInt32_length]
  constructor
  · rintro ⟨⟨e, he, rfl⟩, hpre⟩
    simp only at hpre ⊢
    refine ⟨he, ?_, trivial⟩
    rw [take_encInt32_append, beq_iff_eq] at hpre
    exact (encInt32_eq_iff_of_protocolValid (crossChainValid_protocol (hi.cnt_valid e he).dst) hp).mp hpre
  · rintro ⟨hm, hd, hx⟩
    refine ⟨⟨x.2, hm, by rw [← hx]⟩, ?_⟩
    rw [hx, take_encInt32_append, hd]
    simp

theorem c13_index_size (o : OrbState) :
    (sortBy (fun a b => bytesLt a.1 b.1) (o.counts.map fun e => (encInt32 e.1.dstProto ++ e.1.enc, e))).length = o.counts.length := by
  rw [(perm_sortBy _ _).length_eq, List.length_map]

/-! ### pagination by key, in reverse: what the paginator really returns, when that is right, and a witness that it is not always -/

/-- **What a reverse page requested by key returns, for every sorted listing**: first the later entries whose key *starts
with* the named key (in descending order), only then the named entry and what precedes it. -/
theorem c13_key_page_reverse_actual {α} (entries : List (Bytes × α)) (pre : Bytes) (L : Nat) (hL : 0 < L)
    (hsorted : entries.Pairwise fun a b => bytesLt a.1 b.1 = true)
    (l₁ l₂ : List (Bytes × α)) (x : Bytes × α) (hsplit : matching entries pre false = l₁ ++ x :: l₂)
    (hlong : pre.length < x.1.length) :
    let walk := (l₂.filter fun e => x.1.isPrefixOf e.1).reverse ++ x :: l₁.reverse
    ∃ r, paginate entries pre { key := x.1.drop pre.length, limit := L, reverse := true } = some r ∧
      r.items = (walk.take L).map (·.2) ∧
      r.next = (match walk.drop L with | e :: _ => e.1.drop pre.length | [] => []) :=
  ⟨_, paginate_key entries pre L hL true hsorted l₁ l₂ x hsplit hlong, rfl, rfl⟩

/-- The part of the property that holds (`…_partial`: the full statement — for *every* listing — is false, see
`c13_reverse_key_revisits`): when the named key is not a proper prefix of a later key of the listing, the reverse page
requested by key starts exactly at the named entry and walks downwards. -/
theorem c13_key_page_reverse_partial {α} (entries : List (Bytes × α)) (pre : Bytes) (L : Nat) (hL : 0 < L)
    (hsorted : entries.Pairwise fun a b => bytesLt a.1 b.1 = true)
    (l₁ l₂ : List (Bytes × α)) (x : Bytes × α) (hsplit : matching entries pre false = l₁ ++ x :: l₂)
    (hlong : pre.length < x.1.length)
    (hnp : ∀ e ∈ l₂, ¬ x.1 <+: e.1) :
    ∃ r, paginate entries pre { key := x.1.drop pre.length, limit := L, reverse := true } = some r ∧
      r.items = ((x :: l₁.reverse).take L).map (·.2) ∧
      r.next = (match (x :: l₁.reverse).drop L with | e :: _ => e.1.drop pre.length | [] => []) := by
  have h := c13_key_page_reverse_actual entries pre L hL hsorted l₁ l₂ x hsplit hlong
  have hnil : (l₂.filter fun e => x.1.isPrefixOf e.1) = [] := by
    rw [List.filter_eq_nil_iff]
    intro e he hp
    exact hnp e he (List.isPrefixOf_iff_prefix.mp hp)
  simpa only [hnil, List.reverse_nil, List.nil_append] using h

/-- The counterparties `"1"` and `"10"` of one protocol, as the terminal string keys the listings are walked by. -/
def witnessListing : List (Bytes × Nat) := [([49], 1), ([49, 48], 10)]

/-- **The full statement is false** (known finding C13): over the listing `"1" ↦ 1, "10" ↦ 10`, the reverse walk with page
size one returns entry `10` with next key `"1"`, and the page requested with that key returns entry `10` with next key `"1"`
again — entry `10` is visited for ever, entry `1` never. -/
theorem c13_reverse_key_revisits :
    (witnessListing.Pairwise fun a b => bytesLt a.1 b.1 = true) ∧
    (paginate witnessListing [] { limit := 1, reverse := true }).map (fun r => (r.items, r.next)) = some ([10], [49]) ∧
    (paginate witnessListing [] { key := [49], limit := 1, reverse := true }).map (fun r => (r.items, r.next)) = some ([10], [49]) := by
  refine ⟨by decide, by decide, by decide⟩

/-- Non-vacuity of `c13_key_page_reverse_partial`: the same walk over `"1" ↦ 1, "2" ↦ 2` is the right one. -/
example : (paginate ([([49], 1), ([50], 2)] : List (Bytes × Nat)) [] { key := [49], limit := 1, reverse := true }).map
    (fun r => (r.items, r.next)) = some ([1], []) := by decide

example : encInt32 2 = [128, 0, 0, 2] ∧ encInt32 (-1) = [127, 255, 255, 255] := by decide

end Orbiter.C13
