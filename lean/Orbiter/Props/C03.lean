/-
  C03 — A failure at any step yields an error acknowledgement, never partial success.
  (a) all-or-nothing: an acknowledgement that is not a success commits nothing;
  (b) a success means every stage succeeded, in order, and the committed context is the one after the
      last fund movement;
  (c) on the chain's wiring, no external call that the fault oracle fails is survived: on success every
      registered call (bank sends, module-to-module sweep, wrapped application, bridge servers, token
      query, event manager) was answered without error.
-/
import Orbiter.Lemmas.Recv
namespace Orbiter.C03
open Orbiter

/-- (a) Whatever failed and wherever: an error acknowledgement (or an abort) leaves the committed world —
ledger, external state, module state — exactly as it was. No fee is kept, nothing is swept, no
statistics are written. -/
theorem c03_all_or_nothing (wr : Wiring) (φ : Faults) (w : World) (pkt : Packet)
    (h : (ibcRecv wr φ w pkt).ack.isSuccess = false) : (ibcRecv wr φ w pkt).world = w :=
  ibcRecv_error_commits_nothing wr φ w pkt h

/-- (b) A success acknowledgement for an orbiter packet is returned only after every stage has succeeded:
hook, wrapped application, every action in order, the forwarder (balance precondition and bridge call),
the final event; the committed context is the one the last of them returned. -/
theorem c03_success_means_every_stage (wr : Wiring) (φ : Faults) (w : World) (pkt : Packet) (t : TransferAttrs) (p : Payload)
    (hs : (ibcRecv wr φ w pkt).ack.isSuccess = true) (ha : adaptPacket wr pkt = .ok (.orbiter t p)) :
    ∃ c1 c2 c3 c4 t' f,
      beforeTransferHook wr φ w.orb (ctxOf w) t p = .ok c1 ∧
      wrappedApp wr φ c1 pkt = .ok c2 ∧
      dispatchActions wr φ w.orb p.preActions c2 t = .ok (c3, t') ∧
      p.forwarding = some f ∧ forwarderHandle wr φ w.orb c3 t' f = .ok c4 ∧
      c4.emit φ "EventPayloadProcessed" = .ok (ibcRecv wr φ w pkt).ctx := by
  obtain ⟨s⟩ := ibcRecv_success_stages hs ha
  exact ⟨s.c1, s.c2, s.c3, s.c4, s.t', s.f, s.hook, s.app, s.actions, s.forwarding, s.forwarder, s.emitted⟩

/-- Contrapositive, stage by stage: if any stage fails the acknowledgement is not a success. -/
theorem c03_stage_failure_is_error (wr : Wiring) (φ : Faults) (w : World) (pkt : Packet) (t : TransferAttrs) (p : Payload)
    (ha : adaptPacket wr pkt = .ok (.orbiter t p))
    (hfail : (∀ c1, beforeTransferHook wr φ w.orb (ctxOf w) t p ≠ .ok c1) ∨
             (∀ c1 c2, beforeTransferHook wr φ w.orb (ctxOf w) t p = .ok c1 → wrappedApp wr φ c1 pkt ≠ .ok c2) ∨
             (∀ c2 r, dispatchPayload wr φ w.orb c2 t p ≠ .ok r)) :
    (ibcRecv wr φ w pkt).ack.isSuccess = false := by
  refine (ibcRecv_refused fun hs => ?_).1
  obtain ⟨s⟩ := ibcRecv_success_stages hs ha
  rcases hfail with h | h | h
  · exact h _ s.hook
  · exact h _ _ s.hook s.app
  · exact h _ _ s.dispatch

/-- (c) On the chain's wiring a successful orbiter transfer survived no failed call: every external call
registered during the transfer was answered without error. Equivalently: if the oracle fails the k-th
call of any site the transfer reaches, the acknowledgement is an error (and by (a) nothing is kept). -/
theorem c03_no_failed_call_survives (cfg : Cfg) (π : OneofOrder) (φ : Faults) (w : World) (pkt : Packet) (t : TransferAttrs) (p : Payload)
    (hs : (ibcRecv (appWiring cfg π) φ w pkt).ack.isSuccess = true) (ha : adaptPacket (appWiring cfg π) pkt = .ok (.orbiter t p)) :
    (ibcRecv (appWiring cfg π) φ w pkt).ctx.Clean φ := by
  obtain ⟨c1, c2, c3, c4, t', f, h1, h2, h3, _, h5, h6⟩ := c03_success_means_every_stage _ φ w pkt t p hs ha
  have k1 : c1.Clean φ := (beforeTransferHook_eff h1).clean (fun s k hm => by simp [ctxOf] at hm)
  have k2 : c2.Clean φ := fun s k hm => ((wrappedApp_frame h2).1 (s, k) hm).elim (k1 s k) id
  obtain ⟨_, _, e3⟩ := dispatchActions_app_eff h3
  have k4 : c4.Clean φ := by
    rcases forwarderHandle_app_ok h5 with ⟨_, h⟩ | ⟨_, h⟩ | ⟨_, h⟩
    · obtain ⟨_, e, _⟩ := cctpController_eff h; exact e.clean (e3.clean k2)
    · obtain ⟨_, _, _, e, _⟩ := hypController_eff h; exact e.clean (e3.clean k2)
    · obtain ⟨_, _, _, e, _⟩ := internalController_eff h; exact e.clean (e3.clean k2)
  exact (Ctx.emit_eff h6).clean k4

/-! ### non-vacuity: a fault oracle that fails the first bank send -/
example : (fun s k => s == "bank.SendCoins" && k == 1 : Faults) "bank.SendCoins" 1 = true := by decide

end Orbiter.C03
