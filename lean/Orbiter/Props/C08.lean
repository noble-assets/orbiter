/-
  C08 — A paused protocol or destination is never forwarded to; others are unaffected.
  Abstract specification: two sets (protocols, (protocol, counterparty) pairs) changed only by successful
  messages; the forwarder consults exactly these sets.  C09 reuses the construction for actions.
-/
import Orbiter.Lemmas.Recv
import Orbiter.Lemmas.Genesis
namespace Orbiter.C08
open Orbiter

/-! ### well-formedness of the stored sets (no duplicates), an invariant of every operation -/

def WF (o : OrbState) : Prop := o.pausedProtocols.Nodup ∧ o.pausedCrossChains.Nodup ∧ o.pausedActions.Nodup

theorem WF_empty : WF {} := ⟨List.nodup_nil, List.nodup_nil, List.nodup_nil⟩

theorem WF.pp {o : OrbState} (h : WF o) : o.pausedProtocols.Nodup := h.1
theorem WF.pc {o : OrbState} (h : WF o) : o.pausedCrossChains.Nodup := h.2.1
theorem WF.pa {o : OrbState} (h : WF o) : o.pausedActions.Nodup := h.2.2

theorem WF_of_sameAdmin {a b : OrbState} (h : a.sameAdmin b) (hb : WF b) : WF a :=
  ⟨h.pp ▸ hb.pp, h.pc ▸ hb.pc, h.pa ▸ hb.pa⟩

/-! ### the abstract specification -/

structure PauseSpec where
  protocols : Int → Bool
  cross : Int × String → Bool
  actions : Int → Bool

theorem PauseSpec.ext {s t : PauseSpec} (h1 : s.protocols = t.protocols) (h2 : s.cross = t.cross) (h3 : s.actions = t.actions) :
    s = t := by
  rw [show s = ⟨s.protocols, s.cross, s.actions⟩ from rfl, h1, h2, h3]

def abs (o : OrbState) : PauseSpec :=
  { protocols := fun p => o.pausedProtocols.contains p
    cross := fun pc => o.pausedCrossChains.contains pc
    actions := fun a => o.pausedActions.contains a }

theorem abs_of_sameAdmin {a b : OrbState} (h : a.sameAdmin b) : abs a = abs b := by
  rw [abs, abs, h.pp, h.pc, h.pa]

/-! ### enforcement: the forwarder refuses exactly on these sets -/

/-- A paused protocol is never forwarded to: whatever the packet, the wiring, the faults. -/
theorem c08_protocol_enforced (wr : Wiring) (φ : Faults) (o : OrbState) (c c' : Ctx) (t : TransferAttrs) (f : Forwarding)
    (hp : (abs o).protocols f.protocolId = true) : forwarderHandle wr φ o c t f ≠ .ok c' := by
  intro h
  obtain ⟨r⟩ := forwarderHandle_ok h
  exact Bool.false_ne_true (r.protocolNotPaused.symm.trans hp)

/-- A paused (protocol, counterparty) pair is never forwarded to. The counterparty is the one the
attributes produce (C20: the decimal form of the domain). -/
theorem c08_cross_chain_enforced (wr : Wiring) (φ : Faults) (o : OrbState) (c c' : Ctx) (t : TransferAttrs) (f : Forwarding)
    (a : Attrs) (ha : f.attrs = some a) (hp : (abs o).cross (f.protocolId, a.counterpartyID) = true) :
    forwarderHandle wr φ o c t f ≠ .ok c' := by
  intro h
  obtain ⟨r⟩ := forwarderHandle_ok h
  have hn := r.crossChainNotPaused
  rw [← Option.some.inj (ha.symm.trans r.attrs)] at hn
  exact Bool.false_ne_true (hn.symm.trans hp)

/-- Others are unaffected: when neither the protocol nor the pair is paused, the forwarder behaves exactly
as with empty pause sets. -/
theorem c08_others_unaffected (wr : Wiring) (φ : Faults) (o : OrbState) (c : Ctx) (t : TransferAttrs) (f : Forwarding)
    (hp : (abs o).protocols f.protocolId = false)
    (hc : ∀ a, f.attrs = some a → (abs o).cross (f.protocolId, a.counterpartyID) = false) :
    forwarderHandle wr φ o c t f = forwarderHandle wr φ { o with pausedProtocols := [], pausedCrossChains := [] } c t f :=
  forwarderHandle_congr wr φ c t f hp hc

/-- Packet level: a transfer whose forwarding is paused cannot be dispatched, so the acknowledgement is an
error and (C03) nothing is committed. -/
theorem c08_paused_not_dispatched (wr : Wiring) (φ : Faults) (o : OrbState) (c : Ctx) (t : TransferAttrs) (p : Payload)
    (f : Forwarding) (hf : p.forwarding = some f)
    (hp : (abs o).protocols f.protocolId = true ∨ ∃ a, f.attrs = some a ∧ (abs o).cross (f.protocolId, a.counterpartyID) = true)
    (r : Ctx × TransferAttrs × OrbState) : dispatchPayload wr φ o c t p ≠ .ok r := by
  intro h
  obtain ⟨c', t', o'⟩ := r
  obtain ⟨c1, f', _, _, hf', hfw, _⟩ := dispatchPayload_ok h
  cases hf.symm.trans hf'
  rcases hp with hp | ⟨a, ha, hp⟩
  · exact c08_protocol_enforced wr φ o c1 c' t' f hp hfw
  · exact c08_cross_chain_enforced wr φ o c1 c' t' f a ha hp hfw

/-! ### the state changes only through successful messages, as the specification says -/

/-- A successful protocol pause adds exactly that protocol; a redundant one fails (and changes nothing). -/
theorem c08_pause_protocol_spec (o o' : OrbState) (p : Int) (h : setPausedProtocol o p = .ok o') :
    (abs o).protocols p = false ∧
    (abs o').protocols = (fun q => q == p || (abs o).protocols q) ∧ (abs o').cross = (abs o).cross ∧ (abs o').actions = (abs o).actions := by
  obtain ⟨_, h1, rfl⟩ := setPausedProtocol_ok.mp h
  refine ⟨by simpa [abs] using h1, ?_, rfl, rfl⟩
  funext q
  simp only [abs]
  exact contains_insertBy intLt

theorem c08_unpause_protocol_spec (o o' : OrbState) (p : Int) (hwf : WF o) (h : setUnpausedProtocol o p = .ok o') :
    (abs o).protocols p = true ∧
    (abs o').protocols = (fun q => (abs o).protocols q && !(q == p)) ∧ (abs o').cross = (abs o).cross ∧ (abs o').actions = (abs o).actions := by
  obtain ⟨_, h1, rfl⟩ := setUnpausedProtocol_ok.mp h
  refine ⟨by simpa [abs] using h1, ?_, rfl, rfl⟩
  funext q
  simp only [abs]
  exact contains_erase_of_nodup hwf.pp

theorem c08_redundant_pause_fails (o : OrbState) (p : Int) (h : (abs o).protocols p = true) :
    ∃ e, setPausedProtocol o p = .err e := by
  unfold setPausedProtocol
  exact err_of_second_guard (show o.pausedProtocols.contains p = true from h)

theorem c08_redundant_unpause_fails (o : OrbState) (p : Int) (h : (abs o).protocols p = false) :
    ∃ e, setUnpausedProtocol o p = .err e := by
  unfold setUnpausedProtocol
  exact err_of_second_guard (show (!o.pausedProtocols.contains p) = true from (Bool.not_eq_true' _).mpr h)

/-- A batch is its steps composed: when each step changes the flag of its own pair by `op` (and keeps `P`, under which this is
known), the batch changes the flags of the listed pairs by `op`. -/
theorem batch_spec_of (op : Bool → Bool → Bool) (hop0 : ∀ x, op x false = x) (hop : ∀ x a b, op (op x a) b = op x (a || b))
    (P : OrbState → Prop) (step : OrbState → String → Res OrbState) (p : Int)
    (hstep : ∀ o id o', P o → step o id = .ok o' → P o' ∧ (abs o').cross = (fun pc => op ((abs o).cross pc) (pc == (p, id))) ∧
      (abs o').protocols = (abs o).protocols ∧ (abs o').actions = (abs o).actions)
    (ids : List String) (o o' : OrbState) (hP : P o) (h : ids.foldlM step o = .ok o') :
    (abs o').cross = (fun pc => op ((abs o).cross pc) (pc.1 == p && ids.contains pc.2)) ∧
    (abs o').protocols = (abs o).protocols ∧ (abs o').actions = (abs o).actions := by
  induction ids generalizing o with
  | nil =>
    cases h
    exact ⟨funext fun pc => by rw [List.contains_nil, Bool.and_false, hop0], rfl, rfl⟩
  | cons id rest ih =>
    rw [List.foldlM_cons] at h
    obtain ⟨o1, hs, h⟩ := Res.bind_eq_ok.mp h
    obtain ⟨hP1, s1, s2, s3⟩ := hstep o id o1 hP hs
    obtain ⟨i1, i2, i3⟩ := ih o1 hP1 h
    refine ⟨?_, i2.trans s2, i3.trans s3⟩
    rw [i1, s1]
    funext ⟨a, b⟩
    rw [hop, List.contains_cons, Bool.and_or_distrib_left]
    -- `(a, b) == (p, id)` is `a == p && b == id` by definition
    rfl

/-- A batch of counterparties is applied entirely: after a successful batch every listed pair is paused,
every pair that was paused stays paused, and nothing else is. (When it fails the message returns an error
and — C10 `c10_failure_changes_nothing` — nothing is applied.) -/
theorem c08_batch_spec (p : Int) (ids : List String) (o o' : OrbState)
    (h : ids.foldlM (fun o id => setPausedCrossChain o p id) o = .ok o') :
    (abs o').cross = (fun pc => (abs o).cross pc || (pc.1 == p && ids.contains pc.2)) ∧
    (abs o').protocols = (abs o).protocols ∧ (abs o').actions = (abs o).actions := by
  refine batch_spec_of (· || ·) Bool.or_false Bool.or_assoc (fun _ => True) _ p (fun o id o' _ hs => ?_) ids o o' trivial h
  obtain ⟨_, _, rfl⟩ := setPausedCrossChain_ok.mp hs
  exact ⟨trivial, funext fun _ => (contains_insertBy ccLt).trans (Bool.or_comm _ _), rfl, rfl⟩

theorem batch_unpause_spec (p : Int) (ids : List String) (o o' : OrbState) (hwf : WF o)
    (h : ids.foldlM (fun o id => setUnpausedCrossChain o p id) o = .ok o') :
    (abs o').cross = (fun pc => (abs o).cross pc && !(pc.1 == p && ids.contains pc.2)) ∧
    (abs o').protocols = (abs o).protocols ∧ (abs o').actions = (abs o).actions := by
  refine batch_spec_of (fun x a => x && !a) (by decide) (by decide) WF _ p (fun o id o' hw hs => ?_) ids o o' hwf h
  obtain ⟨_, _, rfl⟩ := setUnpausedCrossChain_ok.mp hs
  exact ⟨⟨hw.pp, hw.pc.erase _, hw.pa⟩, funext fun _ => contains_erase_of_nodup hw.pc, rfl, rfl⟩

/-! ### refinement: every successful message acts on the abstract sets as the specification says -/

/-- What a message does to the abstract state *if it succeeds*. -/
def PauseSpec.applyFwd (s : PauseSpec) (pause : Bool) (p : Int) (ids : List String) : PauseSpec :=
  if ids.isEmpty then
    { s with protocols := fun q => if pause then q == p || s.protocols q else s.protocols q && !(q == p) }
  else
    { s with cross := fun pc => if pause then s.cross pc || (pc.1 == p && ids.contains pc.2)
                               else s.cross pc && !(pc.1 == p && ids.contains pc.2) }

def PauseSpec.applyMsg (s : PauseSpec) : Msg → PauseSpec
  | .pauseProtocol _ pid => match protocolIdFromString pid with | some p => s.applyFwd true p [] | none => s
  | .unpauseProtocol _ pid => match protocolIdFromString pid with | some p => s.applyFwd false p [] | none => s
  | .pauseCrossChains _ pid ids => match protocolIdFromString pid with | some p => s.applyFwd true p ids | none => s
  | .unpauseCrossChains _ pid ids => match protocolIdFromString pid with | some p => s.applyFwd false p ids | none => s
  | .pauseAction _ aid => match actionIdFromString aid with
    | some a => { s with actions := fun q => q == a || s.actions q } | none => s
  | .unpauseAction _ aid => match actionIdFromString aid with
    | some a => { s with actions := fun q => s.actions q && !(q == a) } | none => s
  | .replaceDepositForBurn .. => s
  | .updateParams .. => s

/-- Duplicate-freeness is kept by each of the seven writes a message can make. -/
theorem WF_msgStep {cfg : Cfg} {φ : Faults} {o o' : OrbState} {m : Msg} {evs : List String} {rq : List Req} (hwf : WF o)
    (h : msgStep cfg φ o m = .ok (o', evs, rq)) : WF o' :=
  msgStep_preserves (Q := WF) {
    pauseProtocol := fun hq _ hn => ⟨nodup_insertBy intLt hn hq.pp, hq.pc, hq.pa⟩
    unpauseProtocol := fun hq _ => ⟨hq.pp.erase _, hq.pc, hq.pa⟩
    pauseCrossChain := fun hq _ hn => ⟨hq.pp, nodup_insertBy ccLt hn hq.pc, hq.pa⟩
    unpauseCrossChain := fun hq _ => ⟨hq.pp, hq.pc.erase _, hq.pa⟩
    pauseAction := fun hq _ hn => ⟨hq.pp, hq.pc, nodup_insertBy intLt hn hq.pa⟩
    unpauseAction := fun hq _ => ⟨hq.pp, hq.pc, hq.pa.erase _⟩
    params := fun hq => hq } hwf h

theorem forwarderPause_refines (pause : Bool) (o o' : OrbState) (p : Int) (ids : List String) (hwf : WF o)
    (h : forwarderPause pause o p ids = .ok o') : abs o' = (abs o).applyFwd pause p ids := by
  -- field by field: on `[]` and on `id :: rest`, `applyFwd` computes to the right sides of the three equations of the case's spec
  rcases (forwarderPause_ok.mp h).2 with ⟨rfl, hs⟩ | ⟨hne, -, hs⟩
  · cases pause
    · obtain ⟨_, h1, h2, h3⟩ := c08_unpause_protocol_spec o o' p hwf hs
      exact PauseSpec.ext h1 h2 h3
    · obtain ⟨_, h1, h2, h3⟩ := c08_pause_protocol_spec o o' p hs
      exact PauseSpec.ext h1 h2 h3
  · obtain ⟨id, rest, rfl⟩ := List.exists_cons_of_ne_nil hne
    cases pause
    · obtain ⟨h1, h2, h3⟩ := batch_unpause_spec p _ o o' hwf hs
      exact PauseSpec.ext h2 h1 h3
    · obtain ⟨h1, h2, h3⟩ := c08_batch_spec p _ o o' hs
      exact PauseSpec.ext h2 h1 h3

/-- **Refinement.** Every message that succeeds changes the pause sets exactly as `applyMsg` says (and keeps
the store well-formed); by C10 a message that fails changes nothing. -/
theorem c08_msg_refines (cfg : Cfg) (φ : Faults) (o o' : OrbState) (m : Msg) (evs : List String) (rq : List Req)
    (hwf : WF o) (h : msgStep cfg φ o m = .ok (o', evs, rq)) : WF o' ∧ abs o' = (abs o).applyMsg m := by
  refine ⟨WF_msgStep hwf h, ?_⟩
  cases (msgStep_ok h).2 with
  | pauseProtocol hp hf | unpauseProtocol hp hf | pauseCrossChains hp hf | unpauseCrossChains hp hf =>
    simp only [PauseSpec.applyMsg, hp]
    exact forwarderPause_refines _ o o' _ _ hwf hf
  | pauseAction ha hs =>
    obtain ⟨_, _, rfl⟩ := setPausedAction_ok.mp hs
    simp only [PauseSpec.applyMsg, ha, abs, PauseSpec.mk.injEq, true_and]
    exact funext fun _ => contains_insertBy intLt
  | unpauseAction ha hs =>
    obtain ⟨_, _, rfl⟩ := setUnpausedAction_ok.mp hs
    simp only [PauseSpec.applyMsg, ha, abs, PauseSpec.mk.injEq, true_and]
    exact funext fun _ => contains_erase_of_nodup hwf.pa
  | updateParams => rfl

/-! ### nothing else changes the sets -/

/-- Receiving packets — orbiter transfers, refused transfers, foreign traffic — never changes the pause state. -/
theorem c08_recv_preserves (wr : Wiring) (φ : Faults) (w : World) (pkt : Packet) :
    abs (ibcRecv wr φ w pkt).orb = abs w.orb :=
  abs_of_sameAdmin (ibcRecv_sameAdmin wr φ w pkt)

theorem c08_recv_preserves_WF (wr : Wiring) (φ : Faults) (w : World) (pkt : Packet) (h : WF w.orb) :
    WF (ibcRecv wr φ w pkt).orb :=
  WF_of_sameAdmin (ibcRecv_sameAdmin wr φ w pkt) h

theorem reimportStep_preserves (o : OrbState) (hwf : WF o) : WF (reimportStep o).2 ∧ abs (reimportStep o).2 = abs o := by
  obtain ⟨-, hw, h1, h2, h3⟩ := reimportStep_admin o
  exact ⟨hw hwf, by rw [abs, abs, funext h1, funext h2, funext h3]⟩

/-- What one operation does to the abstract sets, given only what it reported. -/
def specStep (s : PauseSpec) (op : Op) (obs : Obs) : PauseSpec :=
  match op, obs with
  | .msg m, .msg true _ => s.applyMsg m
  | _, _ => s

theorem c08_step_refines (wr : Wiring) (φ : Faults) (w : World) (op : Op) (hwf : WF w.orb) :
    WF (step wr φ w op).2.orb ∧ abs (step wr φ w op).2.orb = specStep (abs w.orb) op (step wr φ w op).1 := by
  cases op with
  | recv pkt => exact ⟨c08_recv_preserves_WF wr φ w pkt hwf, c08_recv_preserves wr φ w pkt⟩
  | deposit a d n => exact ⟨hwf, rfl⟩
  | env e => exact ⟨hwf, rfl⟩
  | reimport => exact reimportStep_preserves w.orb hwf
  | msg m =>
    rcases step_msg_cases wr φ w m with ⟨_, h⟩ | ⟨o', evs, rq, hm, h⟩ <;> rw [h]
    · exact ⟨hwf, rfl⟩
    · exact c08_msg_refines wr.cfg φ w.orb o' m evs rq hwf hm

/-- The specification run along a history: the abstract sets change only at messages reported successful. -/
def specRun (wr : Wiring) : World → PauseSpec → List Op → PauseSpec
  | _, s, [] => s
  | w, s, op :: rest => specRun wr (step wr noFaults w op).2 (specStep s op (step wr noFaults w op).1) rest

/-- **History.** In every state reachable by any sequence of operations (transfers of any kind, messages
by anybody, deposits, environment changes, export/import), the stored sets are what the specification
says, and they stay duplicate-free. -/
theorem c08_history (wr : Wiring) (w : World) (ops : List Op) (hwf : WF w.orb) :
    WF (run wr w ops).orb ∧ abs (run wr w ops).orb = specRun wr w (abs w.orb) ops := by
  induction ops generalizing w with
  | nil => exact ⟨hwf, rfl⟩
  | cons op rest ih =>
    rw [run_cons, specRun]
    obtain ⟨h1, h2⟩ := c08_step_refines wr noFaults w op hwf
    rw [← h2]
    exact ih _ h1

/-! ### the queries report exactly the current sets -/

theorem c08_query_is_protocol_paused (o : OrbState) (name : String) (p : Int) (h : protocolIdFromString name = some p) :
    queryStep o (.isProtocolPaused name) = .ok (.bool ((abs o).protocols p)) := by
  simp [queryStep, h, abs]

theorem c08_query_paused_protocols (o : OrbState) : queryStep o .pausedProtocols = .ok (.ints o.pausedProtocols) := rfl

theorem c08_query_is_cross_chain_paused (o : OrbState) (name c : String) (p : Int)
    (h : protocolIdFromString name = some p) (hv : crossChainValid p c = true) :
    queryStep o (.isCrossChainPaused name c) = .ok (.bool ((abs o).cross (p, c))) := by
  simp [queryStep, h, hv, abs]

example : ∃ o, WF o ∧ (abs o).protocols 2 = true ∧ (abs o).cross (3, "1") = true :=
  ⟨{ pausedProtocols := [2], pausedCrossChains := [(3, "1")] }, ⟨by decide, by decide, by decide⟩, by decide, by decide⟩

end Orbiter.C08
