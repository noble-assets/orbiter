/-
  C10 — Only the authority can change module state through messages.
  For every modelled RPC, every signer and every body: a signer other than the configured authority gets
  `unauthorized` and the state is untouched; the RPC surface of the model is the one the service
  descriptors of the built code declare.
-/
import Orbiter.Lemmas.State
import Orbiter.Lemmas.Msg
namespace Orbiter.C10
open Orbiter

/-- Coverage obligation: the Msg RPCs registered by the module (enumerated from the proto service
descriptors of the built code, with their `cosmos.msg.v1.signer` field) are exactly the ones the model
has a constructor for. A new or renamed RPC, or a different signer field, breaks this. -/
theorem pin_rpc_surface : Gen.msgRpcs = modelMsgRpcs := rfl

/-- The authority check is the first statement of every handler: whatever the body, a foreign signer is
refused with the same error. -/
theorem c10_unauthorised (cfg : Cfg) (φ : Faults) (o : OrbState) (m : Msg) (h : m.signer ≠ cfg.authority) :
    msgStep cfg φ o m = .err "unauthorized" := by
  unfold msgStep
  simp [h]

/-- …and nothing changes: not the module state, not the ledger, not the environment. -/
theorem c10_state_unchanged (wr : Wiring) (φ : Faults) (w : World) (m : Msg) (h : m.signer ≠ wr.cfg.authority) :
    (step wr φ w (.msg m)).2 = w := by
  simp [step, c10_unauthorised wr.cfg φ w.orb m h]

/-- A failed message never changes the state, whoever signed it (message-level rollback). -/
theorem c10_failure_changes_nothing (wr : Wiring) (φ : Faults) (w : World) (m : Msg)
    (h : ∀ r, msgStep wr.cfg φ w.orb m ≠ .ok r) : (step wr φ w (.msg m)).2 = w := by
  rcases step_msg_cases wr φ w m with ⟨_, e⟩ | ⟨_, _, _, hm, _⟩
  · rw [e]
  · exact absurd hm (h _)

/-- The check does not depend on the rest of the message: two messages with the same foreign signer get
the same answer. -/
theorem c10_body_independent (cfg : Cfg) (φ : Faults) (o : OrbState) (m m' : Msg)
    (h : m.signer ≠ cfg.authority) (h' : m'.signer = m.signer) :
    msgStep cfg φ o m = msgStep cfg φ o m' := by
  rw [c10_unauthorised cfg φ o m h, c10_unauthorised cfg φ o m' (by rw [h']; exact h)]

/-! ### signed by the authority with valid content it succeeds -/

theorem c10_authority_update_params (cfg : Cfg) (φ : Faults) (o : OrbState) (n : Nat) :
    msgStep cfg φ o (.updateParams cfg.authority n) = .ok ({ o with params := some n }, [], []) := by
  simp [msgStep, Msg.signer]

theorem c10_authority_pause_protocol (cfg : Cfg) (o : OrbState) (name : String) (p : Int)
    (hn : protocolIdFromString name = some p) (hv : protocolValid p = true) (hnp : o.pausedProtocols.contains p = false) :
    ∃ o', msgStep cfg noFaults o (.pauseProtocol cfg.authority name) = .ok (o', ["EventProtocolPaused"], []) ∧
      o'.pausedProtocols.contains p = true := by
  refine ⟨{ o with pausedProtocols := insertBy intLt p o.pausedProtocols }, ?_, ?_⟩
  · have hs := setPausedProtocol_ok.mpr ⟨hv, by simpa using hnp, rfl⟩
    simp [msgStep, Msg.signer, hn, forwarderPause, hv, hs, noFaults]
  · simp [mem_insertBy]

theorem c10_authority_pause_action (cfg : Cfg) (o : OrbState) (name : String) (a : Int)
    (hn : actionIdFromString name = some a) (hv : actionValid a = true) (hnp : o.pausedActions.contains a = false) :
    ∃ o', msgStep cfg noFaults o (.pauseAction cfg.authority name) = .ok (o', ["EventPaused"], []) := by
  refine ⟨{ o with pausedActions := insertBy intLt a o.pausedActions }, ?_⟩
  have hs := setPausedAction_ok.mpr ⟨hv, by simpa using hnp, rfl⟩
  simp [msgStep, Msg.signer, hn, hs, noFaults]

example : (Msg.pauseProtocol "mallory" "PROTOCOL_CCTP").signer ≠ Gen.authority := by decide
example : protocolIdFromString "PROTOCOL_CCTP" = some 2 ∧ protocolValid 2 = true := by decide

end Orbiter.C10
