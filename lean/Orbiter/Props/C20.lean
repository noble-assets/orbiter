/-
  C20 — Cross-chain identifiers are canonical and mean what transfers record.
  Pure theorems about types/core/id.go and the `CounterpartyID()` of the attribute types, for all
  protocol identifiers and all strings.
-/
import Orbiter.Lemmas.Ids
namespace Orbiter.C20
open Orbiter

/-- The separator is one character which is not a decimal digit. -/
theorem separator_is_colon : Gen.idSeparator.toList = [':'] := idSeparator_toList

theorem protocolValid_range {p : Int} (h : protocolValid p = true) : 0 < p ∧ p < 2147483648 := Orbiter.protocolValid_range h

/-- The textual form of a valid (protocol, counterparty) pair parses back to the same pair. -/
theorem c20_roundtrip (p : Int) (cp : String) (h : crossChainValid p cp = true) :
    parseCrossChainID (ccidString p cp) = some (p, cp) :=
  parseCrossChainID_ccidString h

/-- Distinct valid pairs have distinct textual forms. -/
theorem c20_injective (p q : Int) (a b : String) (ha : crossChainValid p a = true) (hb : crossChainValid q b = true)
    (h : ccidString p a = ccidString q b) : p = q ∧ a = b := by
  have r1 := c20_roundtrip p a ha
  have r2 := c20_roundtrip q b hb
  rw [h, r2] at r1
  simp only [Option.some.injEq, Prod.mk.injEq] at r1
  exact ⟨r1.1.symm, r1.2.symm⟩

/-- For CCTP and Hyperlane an identifier is accepted exactly when it is the decimal form of a 32-bit
domain. -/
theorem c20_accepted_iff_decimal_u32 (p : Int) (c : String) (hp : p = PROTOCOL_CCTP ∨ p = PROTOCOL_HYPERLANE)
    (hlen : 10 ≤ Gen.maxCounterpartyIDLength) :
    validateCounterpartyID c p = true ↔ ∃ n, n < 2 ^ 32 ∧ c = natToDec n := by
  have hsel : validateCounterpartyID c p = (c != "" && !hasNul c && allAscii c && decide (byteLen c ≤ Gen.maxCounterpartyIDLength) && isCanonicalU32 c) := by
    rcases hp with rfl | rfl <;> simp [validateCounterpartyID, PROTOCOL_CCTP, PROTOCOL_HYPERLANE, PROTOCOL_IBC]
  rw [hsel]
  constructor
  · intro h
    simp only [Bool.and_eq_true] at h
    exact (isCanonicalU32_iff c).mp h.2
  · rintro ⟨n, hn, rfl⟩
    simp only [Bool.and_eq_true, bne_iff_ne, ne_eq, decide_eq_true_eq]
    refine ⟨⟨⟨⟨?_, ?_⟩, natToDec_ascii n⟩, ?_⟩, (isCanonicalU32_iff _).mpr ⟨n, hn, rfl⟩⟩
    · intro e
      have := congrArg String.toList e
      rw [natToDec_toList, String.toList_empty] at this
      exact natDigits_ne_nil n this
    · rw [Bool.not_eq_true', hasNul_eq_false_iff, natToDec_toList]
      exact natDigits_forall (· ≠ Char.ofNat 0) (by decide) n
    · rw [byteLen_of_ascii (natToDec_ascii n), natToDec_toList]
      have := natDigits_length_le n 10 (by decide) (by omega)
      omega

/-- The identifier under which a transfer is matched and recorded is the decimal form of its domain. -/
theorem c20_matches_transfers_cctp (d : Nat) (m c : Bytes) : (Attrs.cctp d m c).counterpartyID = natToDec d := rfl

theorem c20_matches_transfers_hyp (t : Bytes) (d : Nat) (r h : Bytes) (hm : String) (g : Int) (fd : String) (fa : Int) :
    (Attrs.hyp t d r h hm g fd fa).counterpartyID = natToDec d := rfl

/-- An accepted identifier that names the domain of a transfer is literally the string the transfer is
matched under (so a successful pause of it covers the transfer; see C08). -/
theorem c20_pause_covers (c : String) (d : Nat) (hc : isCanonicalU32 c = true) (h : decVal c.toList = d) :
    c = natToDec d := by
  obtain ⟨n, _, rfl⟩ := (isCanonicalU32_iff c).mp hc
  rw [natToDec_toList, decVal_natDigits] at h
  rw [h]

/-- No two accepted identifiers denote the same destination: accepted CCTP/Hyperlane identifiers of
the same domain are the same string. -/
theorem c20_one_spelling (a b : String) (ha : isCanonicalU32 a = true) (hb : isCanonicalU32 b = true)
    (h : decVal a.toList = decVal b.toList) : a = b :=
  (c20_pause_covers a _ ha h).trans (c20_pause_covers b _ hb rfl).symm

/-! ### non-vacuity and the excluded spellings -/

example : crossChainValid PROTOCOL_CCTP "4294967295" = true := by decide
example : parseCrossChainID (ccidString PROTOCOL_INTERNAL "a:b") = some (PROTOCOL_INTERNAL, "a:b") := by decide
example : validateCounterpartyID "01" PROTOCOL_CCTP = false := by decide
example : validateCounterpartyID "+1" PROTOCOL_CCTP = false := by decide
example : validateCounterpartyID "4294967296" PROTOCOL_HYPERLANE = false := by decide
/-- `strconv.Atoi`, the check before the repair, accepted all of these (replayed on the implementation). -/
example : atoiAccepts "01" = true ∧ atoiAccepts "+1" = true ∧ atoiAccepts "-1" = true ∧ atoiAccepts "4294967296" = true := by decide

end Orbiter.C20
