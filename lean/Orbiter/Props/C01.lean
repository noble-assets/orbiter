/-
  C01 — Received funds never stay on the orbiter account.
  On the chain's own wiring (`appWiring`), for addresses as the application assigns them
  (`Distinct`: the module accounts are pairwise different accounts, and no escrow account is the orbiter
  account — escrow addresses are hashes; that they do not collide is part of the trusted base):
  whenever the acknowledgement is a success, no balance of the orbiter account is larger than before, and
  for an orbiter transfer the balance in the forwarded denomination is exactly zero. Otherwise the
  acknowledgement is an error and (C03) nothing is committed, so IBC refunds the sender.
-/
import Orbiter.Props.C12
import Orbiter.Props.C06  -- for its coverage obligations (and C05's): a check reports what breaks in the import closure of its file
import Orbiter.Props.C07
import Orbiter.Props.C16
namespace Orbiter.C01
open Orbiter

structure Distinct (cfg : Cfg) : Prop where
  cctp : cfg.cctpModule ≠ cfg.orbAddr
  ftf : cfg.ftfModule ≠ cfg.orbAddr
  warp : cfg.warpModule ≠ cfg.orbAddr
  transfer : cfg.transferModule ≠ cfg.orbAddr

/-- Coverage obligation: the module addresses of the built application are pairwise different. -/
theorem pin_distinct_module_accounts :
    Gen.cctpModuleAddress ≠ Gen.moduleAddress ∧ Gen.ftfModuleAddress ≠ Gen.moduleAddress ∧
    Gen.warpModuleAddress ≠ Gen.moduleAddress ∧ Gen.transferModuleAddress ≠ Gen.moduleAddress ∧
    Gen.dustCollectorAddress ≠ Gen.moduleAddress ∧ Gen.hyperlaneModuleAddress ≠ Gen.moduleAddress := by decide

/-- The forwarder on the chain's wiring: nothing grows on the orbiter account, and the balance in the
forwarded denomination — which the precondition fixed at exactly the forwarded amount — is zero afterwards:
every route begins by sending that amount to another account, and none of its moves credits the orbiter account. -/
theorem forwarderHandle_app_empties {cfg : Cfg} (hd : Distinct cfg) {π : OneofOrder} {φ : Faults} {o : OrbState} {c c' : Ctx} {t : TransferAttrs} {f : Forwarding}
    (h : forwarderHandle (appWiring cfg π) φ o c t f = .ok c') :
    (∀ d, c'.bank.bal cfg.orbAddr d ≤ c.bank.bal cfg.orbAddr d) ∧ c'.bank.bal cfg.orbAddr t.dstDenom = 0 := by
  have hpre : (c.bank.bal cfg.orbAddr t.dstDenom : Int) = t.dstAmount := C06.c06_forward_exact_balance _ φ o c c' t f h
  suffices key : ∃ y rest, y ≠ cfg.orbAddr ∧ (∀ m ∈ rest, ¬ m.credits cfg.orbAddr) ∧
      c.bank.replay (.xfer cfg.orbAddr y t.dstDenom t.dstAmount.toNat :: rest) = some c'.bank by
    obtain ⟨y, rest, hy, hr, hb⟩ := key
    refine ⟨Ledger.replay_le hb (fun m hm => ?_), ?_⟩
    · rcases List.mem_cons.mp hm with rfl | hm
      · exact Move.xfer_not_credits_src _ _ _ _
      · exact hr m hm
    · have := Ledger.replay_takes hb hy hr
      omega
  rcases forwarderHandle_app_ok h with ⟨_, h⟩ | ⟨_, h⟩ | ⟨_, h⟩
  · obtain ⟨_, e, _⟩ := cctpController_eff h
    refine ⟨_, _, hd.cctp, fun m hm => ?_, e.bank⟩
    simp only [List.mem_cons, List.not_mem_nil, or_false] at hm
    rcases hm with rfl | rfl
    · exact fun hc => hd.ftf hc.1
    · exact id
  · obtain ⟨_, _, rfl | ⟨_, _, rfl⟩, e, _⟩ := hypController_eff h
    · exact ⟨_, [], hd.warp, (fun _ hm => by cases hm), e.bank⟩
    · refine ⟨_, _, hd.warp, fun m hm => ?_, e.bank⟩
      cases List.mem_singleton.mp hm
      exact Move.xfer_not_credits_src _ _ _ _
  · obtain ⟨dst, _, hne, e, _⟩ := internalController_eff h
    exact ⟨_, [], hne, (fun _ hm => by cases hm), e.bank⟩

theorem ics20_foreign_le {cfg : Cfg} (hd : Distinct cfg) {c c' : Ctx} {pkt : Packet}
    (hno : ∀ d, decFTPD pkt.data = some d → accAddressFromBech32 cfg.hrp d.receiver ≠ some cfg.orbAddr)
    (h : ics20Recv cfg c pkt = .ok c') (dn : String) : c'.bank.bal cfg.orbAddr dn ≤ c.bank.bal cfg.orbAddr dn := by
  obtain ⟨d, r, ms, hdd, hr, e, hms⟩ := ics20Recv_steps h
  refine Ledger.replay_le e.bank (fun m hm hc => ?_) dn
  rcases hms m hm _ hc with rfl | e
  · exact hno d hdd hr
  · exact hd.transfer e.symm

/-- **C01.** On the chain's wiring, for every packet and every prior state: if the acknowledgement is a
success then no balance of the orbiter account is larger than before; and for an orbiter transfer the
balance in the forwarded denomination (the packet's denomination: the chain's only action controller does
not change it) is exactly zero — the whole delivered coin has left the account. -/
theorem c01_nothing_stays (cfg : Cfg) (hd : Distinct cfg) (π : OneofOrder) (φ : Faults) (w : World) (pkt : Packet)
    (hs : (ibcRecv (appWiring cfg π) φ w pkt).ack.isSuccess = true) :
    (∀ d, (ibcRecv (appWiring cfg π) φ w pkt).ctx.bank.bal cfg.orbAddr d ≤ w.bank.bal cfg.orbAddr d) ∧
    (∀ t p, adaptPacket (appWiring cfg π) pkt = .ok (.orbiter t p) →
      (ibcRecv (appWiring cfg π) φ w pkt).ctx.bank.bal cfg.orbAddr t.srcDenom = 0) := by
  rcases ibcRecv_success_cases hs with ⟨hno, c, hi, hm⟩ | ⟨t, p, ha⟩
  · refine ⟨?_, ?_⟩
    · rw [hm]
      apply ics20_foreign_le hd ?_ hi
      intro d hdd hr
      exact (C07.c07_classification (appWiring cfg π) pkt).mp hno ⟨d, hdd, hr⟩
    · intro t p ha; rw [hno] at ha; cases ha
  · obtain ⟨s⟩ := ibcRecv_success_stages hs ha
    obtain ⟨_, _, hdd, _⟩ := C12.c12_source_from_packet _ pkt t p ha
    -- the sweep and the fee payments only send from the orbiter account
    have s1 : ∀ d, s.c1.bank.bal cfg.orbAddr d ≤ w.bank.bal cfg.orbAddr d :=
      Ledger.replay_le (beforeTransferHook_eff s.hook).bank fun m hm => by
        split at hm
        · cases hm
        · cases List.mem_singleton.mp hm; exact Move.xfer_not_credits_src _ _ _ _
    obtain ⟨hd3, _, e3⟩ := dispatchActions_app_eff s.actions
    have s3 : ∀ d, s.c3.bank.bal cfg.orbAddr d ≤ s.c2.bank.bal cfg.orbAddr d :=
      Ledger.replay_le e3.bank (fun m hm => by obtain ⟨_, _, rfl⟩ := List.mem_map.mp hm; exact Move.xfer_not_credits_src _ _ _ _)
    obtain ⟨s4, z4⟩ := forwarderHandle_app_empties hd s.forwarder
    have hb5 : (ibcRecv (appWiring cfg π) φ w pkt).ctx.bank = s.c4.bank := (Ctx.emit_eff s.emitted).bank_eq
    have hzero : (ibcRecv (appWiring cfg π) φ w pkt).ctx.bank.bal cfg.orbAddr t.srcDenom = 0 := by
      rw [hb5, ← hdd, ← hd3]; exact z4
    refine ⟨fun d => ?_, fun t' p' ha' => ?_⟩
    · by_cases hdn : d = t.srcDenom
      · subst hdn; rw [hzero]; exact Nat.zero_le _
      · -- other denominations: ICS-20 on this packet moves only the packet's denomination
        have k2 : s.c2.bank.bal cfg.orbAddr d = s.c1.bank.bal cfg.orbAddr d := by
          rw [Ledger.send_bal (C16.wrappedApp_steps ha s.app).send_eq cfg.orbAddr d]
          simp [hdn]
        have := s4 d; have := s3 d; have := s1 d
        rw [hb5]; omega
    · cases ha.symm.trans ha'
      exact hzero

/-- The dichotomy: either the acknowledgement is a success (and `c01_nothing_stays` applies), or it is not
and the committed world is untouched — the ICS-20 credit included — so the sender is refunded by IBC. -/
theorem c01_dichotomy (wr : Wiring) (φ : Faults) (w : World) (pkt : Packet) :
    (ibcRecv wr φ w pkt).ack.isSuccess = true ∨
    ((ibcRecv wr φ w pkt).ack.isSuccess = false ∧ (ibcRecv wr φ w pkt).world = w) := by
  by_cases hs : (ibcRecv wr φ w pkt).ack.isSuccess = true
  · exact Or.inl hs
  · exact Or.inr (ibcRecv_refused hs)

/-! ### C16, third clause — acts on, forwards and records the credited coin (from the statistics lemmas of `Props/C12.lean`) -/

/-- **The coin recorded is the coin credited.** On the chain's wiring, when an orbiter packet is acknowledged with success the one
statistics update is made with attributes whose source side is the packet's channel and exactly the coin ICS-20 released
(`c16_balance_is_credit`: that release is the one movement of the wrapped application), and whose destination denomination is
still that denomination: the incoming total of the route grows by the credited amount under the credited denomination, the
outgoing total — under the same denomination — by the amount the forwarding request carried (`c06_sends_final_coin`). -/
theorem c16_records_credited_coin (cfg : Cfg) (π : OneofOrder) (φ : Faults) (w : World) (pkt : Packet) (t : TransferAttrs) (p : Payload)
    (hs : (ibcRecv (appWiring cfg π) φ w pkt).ack.isSuccess = true) (ha : adaptPacket (appWiring cfg π) pkt = .ok (.orbiter t p)) :
    ∃ t' f a, p.forwarding = some f ∧ f.attrs = some a ∧
      (ibcRecv (appWiring cfg π) φ w pkt).orb = (updateStats w.orb t' f).1 ∧
      t'.srcProtocol = PROTOCOL_IBC ∧ t'.srcCounterparty = pkt.dstChan ∧
      t'.srcDenom = t.srcDenom ∧ t'.srcAmount = t.srcAmount ∧ t'.dstDenom = t.srcDenom ∧ 0 < t'.dstAmount ∧
      ((updateStats w.orb t' f).2 = true → ∀ k,
        C12.amtOf (ibcRecv (appWiring cfg π) φ w pkt).orb k =
          ((C12.amtOf w.orb k).1 + (if k = ({ srcProto := PROTOCOL_IBC, srcCp := pkt.dstChan, dstId := ccidString f.protocolId a.counterpartyID, denom := t.srcDenom } : AmtKey) then C12.incr t.srcAmount else 0),
           (C12.amtOf w.orb k).2 + (if k = ({ srcProto := PROTOCOL_IBC, srcCp := pkt.dstChan, dstId := ccidString f.protocolId a.counterpartyID, denom := t.srcDenom } : AmtKey) then C12.incr t'.dstAmount else 0))) := by
  obtain ⟨c2, c3, t', f, a, hda, hf, hfa, _, _, _, hpos, ho⟩ := C12.c12_success (appWiring cfg π) φ w pkt t p hs ha
  obtain ⟨s1, s2, s3, s4⟩ := C12.dispatchActions_src (C12.appWiring_srcStable cfg π) φ w.orb p.preActions c2 c3 t t' hda
  obtain ⟨h1, h2, hdd, _⟩ := C12.c12_source_from_packet _ pkt t p ha
  have hden : t'.dstDenom = t.srcDenom := (dispatchActions_app_eff hda).1.trans hdd
  refine ⟨t', f, a, hf, hfa, ho, s1.trans h1, s2.trans h2, s3, s4, hden, hpos, ?_⟩
  intro hok k
  rw [ho]
  have := (C12.c12_update_spec w.orb t' f a hfa hok).1 k
  rw [this, s1, s2, s3, s4, hden, h1, h2]

/-- What was sent directly to an account along a history (anyone may send coins to the orbiter account). -/
def depositedTo (a : Addr) (d : String) : List Op → Nat
  | [] => 0
  | .deposit to d' amt :: rest => (if to = a ∧ d' = d then amt else 0) + depositedTo a d rest
  | _ :: rest => depositedTo a d rest

theorem c01_step_le (cfg : Cfg) (hd : Distinct cfg) (π : OneofOrder) (φ : Faults) (w : World) (op : Op) (d : String) :
    (step (appWiring cfg π) φ w op).2.bank.bal cfg.orbAddr d ≤ w.bank.bal cfg.orbAddr d + depositedTo cfg.orbAddr d [op] := by
  cases op with
  | recv pkt =>
    simp only [step, depositedTo, Nat.add_zero]
    rcases c01_dichotomy (appWiring cfg π) φ w pkt with hs | ⟨_, hw⟩
    · exact (c01_nothing_stays cfg hd π φ w pkt hs).1 d
    · rw [hw]; exact Nat.le_refl _
  | msg m =>
    rcases step_msg_cases (appWiring cfg π) φ w m with ⟨_, h⟩ | ⟨_, _, _, _, h⟩ <;> rw [h] <;> exact Nat.le_add_right _ _
  | deposit to d' amt =>
    simp only [step, depositedTo, Nat.add_zero, Ledger.mint_bal]
    split <;> split <;> simp_all
  | reimport | env _ => exact Nat.le_add_right _ _

/-- **C01 over histories.** After any history of received packets (orbiter transfers and foreign traffic, accepted or refused),
governance messages, environment changes, genesis round trips and deposits, every balance of the orbiter account is at most
what it was at the start plus what was sent to the account directly: nothing a packet delivered ever accumulates there. -/
theorem c01_history (cfg : Cfg) (hd : Distinct cfg) (π : OneofOrder) (ops : List Op) (w : World) (d : String) :
    (run (appWiring cfg π) w ops).bank.bal cfg.orbAddr d ≤ w.bank.bal cfg.orbAddr d + depositedTo cfg.orbAddr d ops := by
  induction ops generalizing w with
  | nil => exact Nat.le_add_right _ _
  | cons op ops ih =>
    rw [run_cons]
    have h1 := c01_step_le cfg hd π noFaults w op d
    have h2 := ih (step (appWiring cfg π) noFaults w op).2
    have h3 : depositedTo cfg.orbAddr d (op :: ops) = depositedTo cfg.orbAddr d [op] + depositedTo cfg.orbAddr d ops := by
      cases op <;> simp [depositedTo]
    omega

/-- …in particular, without direct deposits a history that starts with an empty orbiter account ends with an empty one. -/
theorem c01_history_empty (cfg : Cfg) (hd : Distinct cfg) (π : OneofOrder) (ops : List Op) (w : World)
    (h0 : ∀ d, w.bank.bal cfg.orbAddr d = 0) (hnd : ∀ d, depositedTo cfg.orbAddr d ops = 0) (d : String) :
    (run (appWiring cfg π) w ops).bank.bal cfg.orbAddr d = 0 := by
  have := c01_history cfg hd π ops w d
  rw [h0 d, hnd d] at this
  omega

end Orbiter.C01
