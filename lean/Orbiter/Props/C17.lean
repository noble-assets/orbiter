/-
  C17 — Genesis export/import round-trips and validated genesis initialises.
  `OrbState.Inv` (Lemmas/Inv.lean) is the invariant of the module's store: duplicate-free, valid pause
  sets; statistics maps with unique keys whose identifiers are valid and whose destination text is the
  printed form of a valid identifier. It holds for the empty store and is preserved by every operation
  (`step_inv`), so it holds after any history.
  Proved here: after any history the exported genesis validates and initialises, and the re-initialised
  state is observationally equivalent (same pause sets, same limit, same statistics at every key) and
  again satisfies the invariant; equivalent states are enforced identically on the receive path; any
  genesis accepted by validation initialises.
  The stored lists are moreover sorted in the byte order of their key encodings in every reachable state
  (`OrbState.Srt`, Lemmas/Sorted.lean; the encodings are injective on valid keys and the byte order is a strict
  total order), so the round trip is exact: import of the export returns the very same store and therefore
  re-exports to the same genesis (`c17_roundtrip_exact`).
-/
import Orbiter.Expect
import Orbiter.Props.C12
import Orbiter.Lemmas.Canonical
import Orbiter.Lemmas.KeyCodec
namespace Orbiter.C17
open Orbiter

/-- Coverage obligation: the genesis document and the entries it carries have exactly the fields the model's `Genesis`
was written against — a new piece of state that export/import would have to carry shows here first. -/
theorem pin_genesis_fields : Gen.genesisFields = modelGenesisFields := rfl

/-- Coverage obligation: the collections of the module live under the prefixes the model assumes, and no prefix is a prefix of
another — each collection is an independent map, as the model's one-list-per-collection state says. -/
theorem pin_store_prefixes : Gen.storePrefixes = modelStorePrefixes ∧
    (∀ a ∈ Gen.storePrefixes, ∀ b ∈ Gen.storePrefixes, a.2 <+: b.2 → a = b) := by
  refine ⟨rfl, ?_⟩
  have : ∀ a ∈ Gen.storePrefixes, ∀ b ∈ Gen.storePrefixes, a.2.isPrefixOf b.2 = true → a = b := by decide +kernel
  intro a ha b hb h
  exact this a ha b hb (List.isPrefixOf_iff_prefix.mpr h)

/-- After any history from a state satisfying the invariant (in particular from the empty store), the
store satisfies the invariant. -/
theorem c17_invariant_after_history (wr : Wiring) (w : World) (ops : List Op) (hi : w.orb.Inv) : (run wr w ops).orb.Inv :=
  run_inv wr w ops hi

theorem c17_invariant_initially : OrbState.Inv {} := OrbState.Inv_empty

/-- The exported genesis of such a state passes validation. -/
theorem c17_export_validates (o : OrbState) (hi : o.Inv) : validateGenesis (exportGenesis o) = .ok () :=
  validate_export hi

/-- …and initialises a fresh store without error, to a state that satisfies the invariant again and is
observationally equivalent: same pause sets, same limit, same totals and counts at every key. -/
theorem c17_export_initialises (o : OrbState) (hi : o.Inv) :
    ∃ o', initGenesis (exportGenesis o) = .ok o' ∧ o'.Inv ∧ o'.Equiv o :=
  reimport_equiv hi

/-- Both, after any history. -/
theorem c17_roundtrip_after_history (wr : Wiring) (w : World) (ops : List Op) (hi : w.orb.Inv) :
    validateGenesis (exportGenesis (run wr w ops).orb) = .ok () ∧
    ∃ o', initGenesis (exportGenesis (run wr w ops).orb) = .ok o' ∧ o'.Inv ∧ o'.Equiv (run wr w ops).orb :=
  ⟨validate_export (run_inv wr w ops hi), reimport_equiv (run_inv wr w ops hi)⟩

/-! ### the exact round trip -/

theorem c17_good_initially : OrbState.Good {} := ⟨OrbState.Inv_empty, OrbState.Srt_empty⟩

/-- **Exact round trip after any history.** In every state reachable from a good state (the empty store is
one), once the parameters have been set (any store initialised from a genesis): the exported genesis
validates, initialises a fresh store to *the very same store*, which therefore re-exports to the same
genesis and behaves identically; the in-place round trip reports valid/initialised/same. -/
theorem c17_roundtrip_exact (wr : Wiring) (w : World) (ops : List Op) (hg : w.orb.Good)
    (hp : (run wr w ops).orb.params.isSome = true) :
    validateGenesis (exportGenesis (run wr w ops).orb) = .ok () ∧
    initGenesis (exportGenesis (run wr w ops).orb) = .ok (run wr w ops).orb ∧
    (reimportStep (run wr w ops).orb).2 = (run wr w ops).orb := by
  have hgood := run_good wr w ops hg
  exact ⟨validate_export hgood.1, reimport_exact hgood hp, congrArg Prod.snd (reimportStep_exact hgood hp)⟩

theorem Equiv_refl (a : OrbState) : a.Equiv a := ⟨fun _ => rfl, fun _ => rfl, fun _ => rfl, rfl, fun _ _ => rfl, fun _ _ => rfl⟩

/-- **The export is canonical.** Two histories — any operations, in any order, over any wirings — that leave the module with the same
content (same pause sets, same limit, same statistics at every key) leave it with the very same stored lists and export the very
same genesis document, entry for entry: nothing in the document records the order in which the content came about. -/
theorem c17_export_canonical (wr₁ wr₂ : Wiring) (w₁ w₂ : World) (ops₁ ops₂ : List Op) (h1 : w₁.orb.Good) (h2 : w₂.orb.Good)
    (he : (run wr₁ w₁ ops₁).orb.Equiv (run wr₂ w₂ ops₂).orb) :
    exportGenesis (run wr₁ w₁ ops₁).orb = exportGenesis (run wr₂ w₂ ops₂).orb := by
  obtain ⟨e1, e2, e3, e4, e5⟩ := OrbState.lists_eq_of_equiv (run_good wr₁ w₁ ops₁ h1).2 (run_good wr₂ w₂ ops₂ h2).2 he
  unfold exportGenesis
  rw [e1, e2, e3, e4, e5, he.params]

/-- Non-vacuity: the order the store keeps tells `[2, 3]` from `[3, 2]` — one content, one list (hypotheses met by the empty store:
`c17_good_initially`, `Equiv_refl`). -/
example : SortedBy intLt [2, 3] ∧ ¬ SortedBy intLt [3, 2] := by unfold SortedBy; decide

/-- **The store holds the keys the model says it holds.** After any history from a state satisfying the invariant, every statistics key
is written by the non-terminal string codec of the pinned collections fork (which keeps only the first byte of every character:
`sdkEncStrNT`, `Lemmas/KeyCodec.lean`) exactly as the model's faithful encoding writes it — because every identifier that passes
validation is ASCII (repair `8388b7e`). This is the theorem the defect of that repair falsified: see `c17_non_ascii_key_not_faithful`. -/
theorem c17_stored_keys_faithful (wr : Wiring) (w : World) (ops : List Op) (hi : w.orb.Inv) :
    (∀ e ∈ (run wr w ops).orb.amounts, e.1.sdkEnc = e.1.enc) ∧ (∀ e ∈ (run wr w ops).orb.counts, e.1.sdkEnc = e.1.enc) :=
  (run_inv wr w ops hi).keys_faithful

/-- …and the hypothesis is needed: for the identifier `nöble`, which validation accepted before the repair, the codec writes another key. -/
theorem c17_non_ascii_key_not_faithful : sdkEncStrNT "nöble" ≠ encStrNT "nöble" ∧ validateCounterpartyID "nöble" PROTOCOL_INTERNAL = false :=
  ⟨sdkEnc_differs_on_non_ascii, by decide⟩

/-- Every genesis-initialised store has its parameters set. -/
theorem c17_params_set_by_genesis (g : Genesis) (o : OrbState) (h : initGenesis g = .ok o) : o.params.isSome = true := by
  rw [initGenesis_params h]; rfl

/-! ### statistics across export/import: the C12 history theorem without its restriction -/

theorem absStats_of_equiv {a b : OrbState} (h : a.Equiv b) : C12.absStats a = C12.absStats b := by
  simp only [C12.absStats, C12.Stats.mk.injEq]
  exact ⟨funext fun k => h.amounts k (0, 0), funext fun k => h.counts k 0⟩

theorem c17_stats_step (wr : Wiring) (w : World) (op : Op) (hi : w.orb.Inv) (hno : C12.NoOverflow wr w [op]) :
    C12.absStats (step wr noFaults w op).2.orb = C12.specStep wr w (C12.absStats w.orb) op := by
  cases op with
  | reimport => exact absStats_of_equiv (reimportStep_equiv hi)
  | _ => exact C12.c12_step_refines wr w _ rfl hno

/-- **Statistics continue from the same totals.** For every history — now including export/import round
trips at any point — the statistics are the accumulation of the successful transfers. -/
theorem c17_stats_history (wr : Wiring) (w : World) (ops : List Op) (hi : w.orb.Inv) (hno : C12.NoOverflow wr w ops) :
    C12.absStats (run wr w ops).orb = C12.specRun wr w (C12.absStats w.orb) ops := by
  induction ops generalizing w with
  | nil => rfl
  | cons op rest ih =>
    rw [run_cons, C12.specRun, ← c17_stats_step wr w op hi ⟨hno.1, trivial⟩]
    exact ih _ (step_inv wr noFaults w op hi) hno.2

/-! ### the re-initialised chain behaves identically -/

/-- **Same enforcement.** On equivalent module states — in particular a state and its export/import image —
every packet gets the same acknowledgement and produces the same context (ledger, external state, moves,
requests, events, calls), and the resulting module states are again equivalent. -/
theorem c17_behaves_identically {a b : OrbState} (h : a.Equiv b) (wr : Wiring) (φ : Faults) (c0 : Ctx) (pkt : Packet) :
    (mwOnRecv wr φ a c0 pkt).ack = (mwOnRecv wr φ b c0 pkt).ack ∧
    (mwOnRecv wr φ a c0 pkt).ctx = (mwOnRecv wr φ b c0 pkt).ctx ∧
    (mwOnRecv wr φ a c0 pkt).orb.Equiv (mwOnRecv wr φ b c0 pkt).orb :=
  mwOnRecv_congr h (updateStats_equiv h) h.params h.pp h.pc h.pa wr φ c0 pkt

/-! ### any genesis accepted by validation can be initialised -/

/-- **Any genesis accepted by validation can be initialised** (no panic, no error): validation has checked, list by list, what the
stages of `initGenesis` ask for. -/
theorem c17_validated_initialises (g : Genesis) (hv : validateGenesis g = .ok ()) : ∃ o, initGenesis g = .ok o := by
  obtain ⟨h1, h2, g3, g4, g5, g6, g7, g8⟩ := validateGenesis_ok.mp hv
  obtain ⟨l, hl, hlv⟩ := validId_all_some g.pausedCrossChains g4
  have hln : l.Nodup := (nodup_map_some l).mp (hl ▸ g6)
  -- the statistics stages succeed and leave the three pause sets empty
  obtain ⟨o1, e1⟩ := Res.foldlM_ok_of_forall (fun a ha => initAmtStep_of_validate (h1 a ha)) { params := some g.params }
  obtain ⟨o2, e2⟩ := Res.foldlM_ok_of_forall (fun c hc => initCntStep_of_validate (h2 c hc)) o1
  have s2 := statsStages_sameAdmin e1 e2
  have e3 := (foldlM_setPausedProtocol_ok (o := o2)).mpr ⟨g3, g5, fun _ _ => s2.pp ▸ List.not_mem_nil, rfl⟩
  have e4 := fun s h => hl ▸ (foldlM_initCcStep_ok (o := s)).mpr ⟨hlv, hln, h, rfl⟩
  have e5 := fun s h => (foldlM_setPausedAction_ok (o := s)).mpr ⟨g7, g8, h, rfl⟩
  exact ⟨_, initGenesis_ok.mpr ⟨o1, o2, _, _, e1, e2, e3, e4 _ fun _ _ => s2.pc ▸ List.not_mem_nil, e5 _ fun _ _ => s2.pa ▸ List.not_mem_nil⟩⟩

/-- The same at the level of the JSON document the module is handed: a document accepted by `ValidateGenesis` has all
four component sections and initialises (a document that omits a section, or spells it `null`, is refused — it would
make `InitGenesis` panic). -/
theorem c17_doc_validated_initialises (d : GenesisDoc) (hv : validateGenesisDoc d = .ok ()) :
    d.nilSections = [] ∧ ∃ o, initGenesisDoc d = .ok o := by
  unfold validateGenesisDoc at hv
  cases hn : d.nilSections with
  | cons a t => simp [hn] at hv
  | nil =>
    simp only [hn, List.isEmpty_nil, Bool.not_true, Bool.false_eq_true, ↓reduceIte] at hv
    refine ⟨rfl, ?_⟩
    unfold initGenesisDoc
    simp only [hn, List.isEmpty_nil, Bool.not_true, Bool.false_eq_true, ↓reduceIte]
    exact c17_validated_initialises d.body hv

theorem c17_doc_nil_section_refused (d : GenesisDoc) (h : d.nilSections ≠ []) :
    validateGenesisDoc d = .err "genesis:nil-section" ∧ ∃ s, initGenesisDoc d = .panic s := by
  unfold validateGenesisDoc initGenesisDoc
  cases hn : d.nilSections with
  | nil => exact absurd hn h
  | cons a t => simp

/-! ### non-vacuity: identifiers that the entries of a store satisfying the invariant can carry -/
example : crossChainValid 2 "5" = true ∧ crossChainValid 1 "channel-0" = true := by decide

end Orbiter.C17
