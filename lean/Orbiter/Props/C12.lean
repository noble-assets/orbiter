/-
  C12 — Dispatch statistics equal the fold of the successful transfers.
  Abstract view of the two maps: `amtOf o k` (incoming, outgoing) and `cntOf o k`, zero where nothing is
  stored. A successful orbiter transfer adds its received amount to `incoming` of (route, source denom),
  its forwarded amount to `outgoing` of (route, destination denom) and one to the count of the route;
  nothing else — refused transfers, foreign traffic, admin messages, deposits, environment changes —
  changes either map.
-/
import Orbiter.Lemmas.Recv
import Orbiter.Lemmas.Msg
namespace Orbiter.C12
open Orbiter

def amtOf (o : OrbState) (k : AmtKey) : Int × Int := lookupD o.amounts k (0, 0)
def cntOf (o : OrbState) (k : CntKey) : Nat := lookupD o.counts k 0

/-- Only positive amounts are recorded. -/
def incr (x : Int) : Int := if x > 0 then x else 0

/-- One checked addition, additively: only the entry under `k` moves, by the positive parts of the two amounts. -/
theorem addAmount_spec {o o' : OrbState} {k : AmtKey} {i u : Int} (h : addAmount o k i u = some o') (k' : AmtKey) :
    amtOf o' k' = ((amtOf o k').1 + (if k' = k then incr i else 0), (amtOf o k').2 + (if k' = k then incr u else 0)) := by
  rw [addAmount_some h]
  simp only [amtOf, lookupD_upsert, incr]
  by_cases hk : k' = k
  · subst hk
    simp only [↓reduceIte]
    congr 1 <;> split <;> simp
  · simp [hk]

theorem addAmount_counts {o o' : OrbState} {k : AmtKey} {i u : Int} (h : addAmount o k i u = some o') : o'.counts = o.counts := by
  rw [addAmount_some h]

theorem addAmounts_build_spec (mk : String → AmtKey) (t : TransferAttrs) (o : OrbState)
    (h : (addAmounts mk (buildDispatched t) o).2 = true) :
    (∀ k, amtOf (addAmounts mk (buildDispatched t) o).1 k =
      ((amtOf o k).1 + (if k = mk t.srcDenom then incr t.srcAmount else 0),
       (amtOf o k).2 + (if k = mk t.dstDenom then incr t.dstAmount else 0))) ∧
    (addAmounts mk (buildDispatched t) o).1.counts = o.counts := by
  rcases buildDispatched_cases t with ⟨hd, hb⟩ | ⟨-, hb⟩ <;> simp only [hb, addAmounts] at h ⊢
  · -- one entry, both amounts under the one key
    cases h1 : addAmount o (mk t.srcDenom) t.srcAmount t.dstAmount with
    | none => simp [h1] at h
    | some o1 => exact ⟨fun k => by rw [addAmount_spec h1 k, ← hd], addAmount_counts h1⟩
  · -- two entries: the incoming amount under the source key, then the outgoing one under the destination key
    cases h1 : addAmount o (mk t.srcDenom) t.srcAmount 0 with
    | none => simp [h1] at h
    | some o1 =>
      simp only [h1] at h ⊢
      cases h2 : addAmount o1 (mk t.dstDenom) 0 t.dstAmount with
      | none => simp [h2] at h
      | some o2 =>
        refine ⟨fun k => ?_, (addAmount_counts h2).trans (addAmount_counts h1)⟩
        simp only [addAmount_spec h2 k, addAmount_spec h1 k, show incr 0 = 0 from rfl, ite_self, Int.add_zero]

theorem addCount_spec {o : OrbState} {ck : CntKey} (h : (addCount o ck).2 = true) :
    (∀ ck', cntOf (addCount o ck).1 ck' = cntOf o ck' + (if ck' = ck then 1 else 0)) ∧ (addCount o ck).1.amounts = o.amounts := by
  rw [addCount_eq] at h ⊢
  split at h
  · cases h
  · rename_i hmax
    rw [if_neg hmax]
    refine ⟨fun ck' => ?_, rfl⟩
    simp only [cntOf, lookupD_upsert]
    split
    · rename_i e
      rw [e]
    · rfl

/-- The effect of a statistics update that did not hit the (2^256 / 2^64) overflow guards. -/
theorem c12_update_spec (o : OrbState) (t : TransferAttrs) (f : Forwarding) (a : Attrs) (ha : f.attrs = some a)
    (hok : (updateStats o t f).2 = true) :
    (∀ k, amtOf (updateStats o t f).1 k =
      ((amtOf o k).1 + (if k = { srcProto := t.srcProtocol, srcCp := t.srcCounterparty, dstId := ccidString f.protocolId a.counterpartyID, denom := t.srcDenom } then incr t.srcAmount else 0),
       (amtOf o k).2 + (if k = { srcProto := t.srcProtocol, srcCp := t.srcCounterparty, dstId := ccidString f.protocolId a.counterpartyID, denom := t.dstDenom } then incr t.dstAmount else 0))) ∧
    (∀ ck, cntOf (updateStats o t f).1 ck =
      cntOf o ck + (if ck = { srcProto := t.srcProtocol, srcCp := t.srcCounterparty, dstProto := f.protocolId, dstCp := a.counterpartyID } then 1 else 0)) := by
  rcases updateStats_cases t f with h | ⟨a', ha', -, -, h⟩ <;> rw [h] at hok ⊢
  · cases hok
  cases ha.symm.trans ha'
  simp only at hok ⊢
  -- the update reported success, so both stages ran
  have hs := addAmounts_build_spec
    (fun d => (⟨t.srcProtocol, t.srcCounterparty, ccidString f.protocolId a.counterpartyID, d⟩ : AmtKey)) t o
  generalize addAmounts _ (buildDispatched t) o = r at hok hs ⊢
  cases hr : r.2 with
  | false => simp [hr] at hok
  | true =>
    simp only [hr, Bool.not_true, Bool.false_eq_true, ↓reduceIte] at hok ⊢
    obtain ⟨s1, s2⟩ := hs hr
    obtain ⟨n1, n2⟩ := addCount_spec hok
    refine ⟨fun k => ?_, fun ck => ?_⟩
    · rw [← s1 k, amtOf, amtOf]
      exact congrArg (lookupD · k (0, 0)) n2
    · rw [n1 ck, cntOf, cntOf, s2]

/-! ### frame: everything that is not a successful orbiter transfer leaves both maps alone -/

/-- A refused transfer (error acknowledgement or abort) leaves no trace. -/
theorem c12_refused_unchanged (wr : Wiring) (φ : Faults) (w : World) (pkt : Packet)
    (h : (ibcRecv wr φ w pkt).ack.isSuccess = false) : (ibcRecv wr φ w pkt).orb = w.orb :=
  congrArg World.orb (ibcRecv_error_commits_nothing wr φ w pkt h)

/-- Traffic that is not an orbiter transfer leaves no trace, successful or not. -/
theorem c12_foreign_unchanged (wr : Wiring) (φ : Faults) (w : World) (pkt : Packet)
    (hno : adaptPacket wr pkt = .ok .notOrbiter) : (ibcRecv wr φ w pkt).orb = w.orb := by
  cases hs : (ibcRecv wr φ w pkt).ack.isSuccess with
  | false => exact c12_refused_unchanged wr φ w pkt hs
  | true =>
    rcases ibcRecv_success_cases hs with ⟨_, c, _, h⟩ | ⟨t, p, h⟩
    · rw [h]
    · rw [hno] at h; cases h

/-- Admin messages never touch the statistics. -/
theorem c12_admin_unchanged (cfg : Cfg) (φ : Faults) (o o' : OrbState) (m : Msg) (evs : List String) (rq : List Req)
    (h : msgStep cfg φ o m = .ok (o', evs, rq)) : o'.amounts = o.amounts ∧ o'.counts = o.counts :=
  -- none of the seven writes of a message mentions `amounts` or `counts`
  msgStep_preserves (Q := fun x => x.amounts = o.amounts ∧ x.counts = o.counts)
    { pauseProtocol := fun hq _ _ => hq
      unpauseProtocol := fun hq _ => hq
      pauseCrossChain := fun hq _ _ => hq
      unpauseCrossChain := fun hq _ => hq
      pauseAction := fun hq _ _ => hq
      unpauseAction := fun hq _ => hq
      params := fun hq => hq } ⟨rfl, rfl⟩ h

/-! ### the successful transfer -/

/-- A successfully acknowledged orbiter transfer performs exactly one statistics update, with the
attributes left by the last action and the payload's forwarding — and that update is not skipped: the
identifiers are valid and both amounts positive. -/
theorem c12_success (wr : Wiring) (φ : Faults) (w : World) (pkt : Packet) (t : TransferAttrs) (p : Payload)
    (hs : (ibcRecv wr φ w pkt).ack.isSuccess = true) (ha : adaptPacket wr pkt = .ok (.orbiter t p)) :
    ∃ c2 c3 t' f a, dispatchActions wr φ w.orb p.preActions c2 t = .ok (c3, t') ∧ p.forwarding = some f ∧ f.attrs = some a ∧
      crossChainValid f.protocolId a.counterpartyID = true ∧ crossChainValid t'.srcProtocol t'.srcCounterparty = true ∧
      t'.srcAmount > 0 ∧ t'.dstAmount > 0 ∧
      (ibcRecv wr φ w pkt).orb = (updateStats w.orb t' f).1 := by
  obtain ⟨s⟩ := ibcRecv_success_stages hs ha
  obtain ⟨a, hfa, v1, v2, v3, v4⟩ := forwarderHandle_ok_valid s.forwarder
  exact ⟨s.c2, s.c3, s.t', s.f, a, s.actions, s.forwarding, hfa, v1, v2, v3, v4, s.orb⟩

/-- The source side of the attributes is fixed by the packet: source protocol IBC, source counterparty
the channel the packet arrived on, the recovered denomination and the packet's amount. -/
theorem c12_source_from_packet (wr : Wiring) (pkt : Packet) (t : TransferAttrs) (p : Payload)
    (ha : adaptPacket wr pkt = .ok (.orbiter t p)) :
    t.srcProtocol = PROTOCOL_IBC ∧ t.srcCounterparty = pkt.dstChan ∧ t.dstDenom = t.srcDenom ∧ t.dstAmount = t.srcAmount ∧
    ∃ d, decFTPD pkt.data = some d ∧ newIntFromString d.amount = some t.srcAmount ∧
      recoverNativeDenom d.denom pkt.srcPort pkt.srcChan = .ok t.srcDenom := by
  obtain ⟨k⟩ := adaptPacket_ok ha
  exact ⟨k.srcProtocol, k.srcCounterparty, k.dstDenom, k.dstAmount, k.d, k.decoded, k.amount, k.denom⟩

/-- Action controllers that leave the source side of the attributes alone (as the Go type enforces: only
the destination fields have setters). -/
def Wiring.SrcStable (wr : Wiring) : Prop :=
  ∀ id ctl φ c t a c' t', wr.actions id = some ctl → ctl φ c t a = .ok (c', t') →
    t'.srcProtocol = t.srcProtocol ∧ t'.srcCounterparty = t.srcCounterparty ∧ t'.srcDenom = t.srcDenom ∧ t'.srcAmount = t.srcAmount

theorem dispatchActions_src {wr : Wiring} (hst : Wiring.SrcStable wr) (φ : Faults) (o : OrbState) (acts : List Action)
    (c c' : Ctx) (t t' : TransferAttrs) (h : dispatchActions wr φ o acts c t = .ok (c', t')) :
    t'.srcProtocol = t.srcProtocol ∧ t'.srcCounterparty = t.srcCounterparty ∧ t'.srcDenom = t.srcDenom ∧ t'.srcAmount = t.srcAmount := by
  induction acts generalizing c t with
  | nil => simp only [dispatchActions, Res.ok.injEq, Prod.mk.injEq] at h; obtain ⟨_, rfl⟩ := h; exact ⟨rfl, rfl, rfl, rfl⟩
  | cons x rest ih =>
    simp only [dispatchActions] at h
    obtain ⟨⟨c1, t1⟩, hx, h⟩ := Res.bind_eq_ok.mp h
    obtain ⟨i1, i2, i3, i4⟩ := ih c1 t1 h
    obtain ⟨_, _, _, ctl, hr, hc⟩ := executorHandle_ok hx
    obtain ⟨j1, j2, j3, j4⟩ := hst x.id ctl φ c t x c1 t1 hr hc
    exact ⟨i1.trans j1, i2.trans j2, i3.trans j3, i4.trans j4⟩

/-- The chain's own wiring (fee controller only) is such a wiring. -/
theorem appWiring_srcStable (cfg : Cfg) (π : OneofOrder) : Wiring.SrcStable (appWiring cfg π) := by
  intro id ctl φ c t a c' t' hr hc
  obtain ⟨_, rfl⟩ := appActionRouter_some hr
  obtain ⟨_, rfl, _⟩ := feeController_eff hc
  exact ⟨rfl, rfl, rfl, rfl⟩

structure Stats where
  amt : AmtKey → Int × Int
  cnt : CntKey → Nat

def absStats (o : OrbState) : Stats := { amt := amtOf o, cnt := cntOf o }

/-- The specification of one successful transfer: received amount in, forwarded amount out, one more. -/
def Stats.record (s : Stats) (t : TransferAttrs) (f : Forwarding) (a : Attrs) : Stats :=
  { amt := fun k =>
      ((s.amt k).1 + (if k = { srcProto := t.srcProtocol, srcCp := t.srcCounterparty, dstId := ccidString f.protocolId a.counterpartyID, denom := t.srcDenom } then incr t.srcAmount else 0),
       (s.amt k).2 + (if k = { srcProto := t.srcProtocol, srcCp := t.srcCounterparty, dstId := ccidString f.protocolId a.counterpartyID, denom := t.dstDenom } then incr t.dstAmount else 0))
    cnt := fun ck =>
      s.cnt ck + (if ck = { srcProto := t.srcProtocol, srcCp := t.srcCounterparty, dstProto := f.protocolId, dstCp := a.counterpartyID } then 1 else 0) }

/-- What a received packet contributes: for a successfully acknowledged orbiter transfer, the attributes
left by its last action, its forwarding and the forwarding's attributes; nothing otherwise. -/
def finalAttrs (wr : Wiring) (φ : Faults) (w : World) (pkt : Packet) : Option (TransferAttrs × Forwarding × Attrs) :=
  if (ibcRecv wr φ w pkt).ack.isSuccess then
    match adaptPacket wr pkt with
    | .ok (.orbiter t p) =>
      match beforeTransferHook wr φ w.orb (ctxOf w) t p with
      | .ok c1 =>
        match wrappedApp wr φ c1 pkt with
        | .ok c2 =>
          match dispatchActions wr φ w.orb p.preActions c2 t, p.forwarding with
          | .ok (_, t'), some f => (match f.attrs with | some a => some (t', f, a) | none => none)
          | _, _ => none
        | _ => none
      | _ => none
    | _ => none
  else none

theorem c12_recv_step (wr : Wiring) (φ : Faults) (w : World) (pkt : Packet) :
    (finalAttrs wr φ w pkt = none → (ibcRecv wr φ w pkt).orb = w.orb) ∧
    (∀ t f a, finalAttrs wr φ w pkt = some (t, f, a) → (ibcRecv wr φ w pkt).orb = (updateStats w.orb t f).1 ∧ f.attrs = some a) := by
  cases hs : (ibcRecv wr φ w pkt).ack.isSuccess with
  | false =>
    refine ⟨fun _ => c12_refused_unchanged wr φ w pkt hs, ?_⟩
    intro t f a h
    simp [finalAttrs, hs] at h
  | true =>
    rcases ibcRecv_success_cases hs with ⟨ha, _⟩ | ⟨t, p, ha⟩
    · refine ⟨fun _ => c12_foreign_unchanged wr φ w pkt ha, ?_⟩
      intro t f a h
      simp [finalAttrs, hs, ha] at h
    · obtain ⟨s⟩ := ibcRecv_success_stages hs ha
      obtain ⟨a, hfa, _⟩ := forwarderHandle_ok_valid s.forwarder
      have hfin : finalAttrs wr φ w pkt = some (s.t', s.f, a) := by
        simp [finalAttrs, hs, ha, s.hook, s.app, s.actions, s.forwarding, hfa]
      refine ⟨fun h => ?_, ?_⟩
      · rw [hfin] at h; cases h
      · intro t' f' a' h
        rw [hfin] at h
        simp only [Option.some.injEq, Prod.mk.injEq] at h
        obtain ⟨rfl, rfl, rfl⟩ := h
        exact ⟨s.orb, hfa⟩

def specStep (wr : Wiring) (w : World) (s : Stats) : Op → Stats
  | .recv pkt => match finalAttrs wr noFaults w pkt with
    | some (t, f, a) => s.record t f a
    | none => s
  | _ => s

def specRun (wr : Wiring) : World → Stats → List Op → Stats
  | _, s, [] => s
  | w, s, op :: rest => specRun wr (step wr noFaults w op).2 (specStep wr w s op) rest

/-- No update along the history hits the 2^256 / 2^64 guards of the checked additions (the totals of a
denomination whose supply is below 2^256 cannot). -/
def NoOverflow (wr : Wiring) : World → List Op → Prop
  | _, [] => True
  | w, op :: rest =>
    (match op with
     | .recv pkt => ∀ t f a, finalAttrs wr noFaults w pkt = some (t, f, a) → (updateStats w.orb t f).2 = true
     | _ => True) ∧ NoOverflow wr (step wr noFaults w op).2 rest

def noReimport : List Op → Bool
  | [] => true
  | .reimport :: _ => false
  | _ :: rest => noReimport rest

theorem noReimport_cons {op : Op} {rest : List Op} (h : noReimport (op :: rest) = true) :
    noReimport [op] = true ∧ noReimport rest = true := by
  cases op with
  | reimport => cases h
  | _ => exact ⟨rfl, h⟩

theorem c12_step_refines (wr : Wiring) (w : World) (op : Op) (hre : noReimport [op] = true)
    (hno : NoOverflow wr w [op]) :
    absStats (step wr noFaults w op).2.orb = specStep wr w (absStats w.orb) op := by
  cases op with
  | reimport => simp [noReimport] at hre
  | deposit a d n => rfl
  | env e => rfl
  | msg m =>
    rcases step_msg_cases wr noFaults w m with ⟨_, h⟩ | ⟨o', evs, rq, hm, h⟩ <;> rw [h]
    · rfl
    · obtain ⟨h1, h2⟩ := c12_admin_unchanged _ _ _ _ _ _ _ hm
      unfold specStep absStats amtOf cntOf
      rw [h1, h2]
  | recv pkt =>
    simp only [step, specStep, RecvOut.world]
    obtain ⟨hn, hsome⟩ := c12_recv_step wr noFaults w pkt
    cases hf : finalAttrs wr noFaults w pkt with
    | none => simp only; rw [hn hf]
    | some r =>
      obtain ⟨t, f, a⟩ := r
      obtain ⟨ho, hfa⟩ := hsome t f a hf
      simp only
      rw [ho]
      have hok := hno.1 t f a hf
      obtain ⟨s1, s2⟩ := c12_update_spec w.orb t f a hfa hok
      simp only [absStats, Stats.record, Stats.mk.injEq]
      exact ⟨funext s1, funext s2⟩

/-- **History.** After any history of transfers (successful, refused, foreign), admin messages by anybody,
deposits and environment changes, both statistics maps are exactly the accumulation of the successful
orbiter transfers. (Histories containing an export/import round trip: see `C17`.) -/
theorem c12_history (wr : Wiring) (w : World) (ops : List Op) (hre : noReimport ops = true) (hno : NoOverflow wr w ops) :
    absStats (run wr w ops).orb = specRun wr w (absStats w.orb) ops := by
  induction ops generalizing w with
  | nil => rfl
  | cons op rest ih =>
    rw [run_cons, specRun]
    obtain ⟨hre1, hre2⟩ := noReimport_cons hre
    have h1 := c12_step_refines wr w op hre1 ⟨hno.1, trivial⟩
    rw [← h1]
    exact ih _ hre2 hno.2

/-- On a same-denomination route, incoming minus outgoing grows by exactly what the actions kept
(the fees): the difference between the received and the forwarded amount. -/
theorem c12_same_denom_difference (s : Stats) (t : TransferAttrs) (f : Forwarding) (a : Attrs)
    (hd : t.srcDenom = t.dstDenom) (h1 : t.srcAmount > 0) (h2 : t.dstAmount > 0) :
    let k : AmtKey := { srcProto := t.srcProtocol, srcCp := t.srcCounterparty, dstId := ccidString f.protocolId a.counterpartyID, denom := t.srcDenom }
    ((s.record t f a).amt k).1 - ((s.record t f a).amt k).2 = ((s.amt k).1 - (s.amt k).2) + (t.srcAmount - t.dstAmount) := by
  simp only [Stats.record, ← hd, ↓reduceIte, incr, h1, h2]
  omega

example : (updateStats {} { srcProtocol := 1, srcCounterparty := "channel-0", srcDenom := "uusdc", srcAmount := 100, dstDenom := "uusdc", dstAmount := 99 }
    { protocolId := 2, attrs := some (.cctp 0 [1] []), passthrough := [] }).2 = true := by decide

end Orbiter.C12
