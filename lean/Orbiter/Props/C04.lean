/-
  C04 — Fees are exact, computed on the incoming amount, and bounded.
  Theorems about controller/action/fee.go and types/controller/action/fee.go for all amounts, all bps,
  all fixed amounts and fee lists of any length.
-/
import Orbiter.Lemmas.Recv
import Orbiter.Lemmas.NoPanic
namespace Orbiter.C04
open Orbiter

/-- Coverage obligations: the literals of the property statement (10000 basis points, at most 5 recipients) are the constants of the built code. -/
theorem pin_bps_normalizer : Gen.bpsNormalizer = 10000 := by decide
theorem pin_max_fee_recipients : Gen.maxFeeRecipients = 5 := by decide

theorem not_overflows_of_range {x : Int} (h0 : 0 ≤ x) (h1 : x < 2 ^ 256) : overflows256 x = false := by
  unfold overflows256 pow2_256
  exact decide_eq_false (by omega)

theorem overflows_of_ge {x : Int} (h : (2 : Int) ^ 256 ≤ x) : overflows256 x = true := by
  unfold overflows256 pow2_256
  exact decide_eq_true (by omega)

/-- Each basis-point entry is exactly `floor(A * bps / 10000)`. -/
theorem c04_bps_exact (A : Int) (b : Nat) (hA : 0 ≤ A) (h : A * (b : Int) < 2 ^ 256) :
    computeFeeAmount A b = .ok (A * (b : Int) / 10000) := by
  have h0 : 0 ≤ A * (b : Int) := Int.mul_nonneg hA (Int.natCast_nonneg b)
  unfold computeFeeAmount
  simp only [not_overflows_of_range h0 h, Bool.false_eq_true, ↓reduceIte, pin_bps_normalizer]
  split
  · rename_i hle
    have : A * (b : Int) = 0 := by omega
    rw [this]; rfl
  · rfl

/-- `/` here is the floor: the quotient `q` satisfies `q * 10000 ≤ x < (q + 1) * 10000`. -/
theorem floor_div (x : Int) (h : 0 ≤ x) : x / 10000 * 10000 ≤ x ∧ x < (x / 10000 + 1) * 10000 := by omega

/-- The multiplication overflow is refused, not wrapped. -/
theorem c04_overflow_refused (A : Int) (b : Nat) (h : (2 : Int) ^ 256 ≤ A * (b : Int)) :
    ∃ t, computeFeeAmount A b = .err t := by
  unfold computeFeeAmount
  simp only [overflows_of_ge h, ↓reduceIte]
  exact ⟨_, rfl⟩

theorem computeFeeAmount_ok {A : Int} {b : Nat} {x : Int} (hA : 0 ≤ A) (h : computeFeeAmount A b = .ok x) :
    x = A * (b : Int) / 10000 ∧ A * (b : Int) < 2 ^ 256 := by
  have h0 : 0 ≤ A * (b : Int) := Int.mul_nonneg hA (Int.natCast_nonneg b)
  by_cases hlt : A * (b : Int) < 2 ^ 256
  · rw [c04_bps_exact A b hA hlt] at h
    cases h; exact ⟨rfl, hlt⟩
  · obtain ⟨t, ht⟩ := c04_overflow_refused A b (by omega)
    rw [ht] at h; cases h

/-- The amount an entry credits, computed on the amount `A` entering the action. -/
def entrySpec (A : Int) (f : FeeInfo) : Int :=
  match f.feeType with
  | .bps v => A * (v : Int) / 10000
  | .amount s => (newIntFromString s).getD 0
  | .unset => 0

def recipientOf (hrp : String) (f : FeeInfo) : Bytes := (accAddressFromBech32 hrp f.recipient).getD []

/-- Credits in payload order; entries that round to zero credit nothing. -/
def creditsSpec (hrp : String) (A : Int) (infos : List FeeInfo) : List (Bytes × Int) :=
  infos.filterMap fun f => if entrySpec A f > 0 then some (recipientOf hrp f, entrySpec A f) else none

def total (l : List (Bytes × Int)) : Int := (l.map (·.2)).sum

theorem total_append (a b : List (Bytes × Int)) : total (a ++ b) = total a + total b := by
  simp [total, List.sum_append]

theorem creditsSpec_cons (hrp : String) (A : Int) (f : FeeInfo) (rest : List FeeInfo) :
    creditsSpec hrp A (f :: rest) =
      (if entrySpec A f > 0 then [(recipientOf hrp f, entrySpec A f)] else []) ++ creditsSpec hrp A rest := by
  by_cases h : entrySpec A f > 0 <;> simp only [creditsSpec, List.filterMap_cons, h, ↓reduceIte] <;> rfl

theorem creditsSpec_pos {hrp : String} {A : Int} {infos : List FeeInfo} : ∀ v ∈ creditsSpec hrp A infos, v.2 > 0 := by
  intro v hv
  obtain ⟨f, _, hf⟩ := List.mem_filterMap.mp hv
  split at hf
  · cases hf; assumption
  · cases hf

theorem feeEntryAmount_of_valid {hrp : String} {A : Int} {f : FeeInfo} {a : Int} (hA : 0 ≤ A)
    (hv : FeeInfo.validate hrp f = .ok ()) (h : feeEntryAmount A f = .ok a) : a = entrySpec A f := by
  have hft := (FeeInfo.validate_ok hv).1
  unfold feeEntryAmount at h
  unfold entrySpec
  generalize f.feeType = ft at h hft ⊢
  cases ft with
  | unset => exact hft.elim
  | bps v => exact (computeFeeAmount_ok hA h).1
  | amount s =>
    obtain ⟨i, hs, _⟩ := hft
    simp only [hs, Res.ok.injEq] at h
    simp only [hs, h, Option.getD_some]

theorem newCoin_ok {d : String} {a : Int} {site : String} (hd : validDenom d = true) (ha : 0 ≤ a) :
    newCoin d a site = .ok () := by
  simp [newCoin, coinValid, hd, ha]

/-- `ComputeFeesToDistribute` returns exactly the specified credits and their sum. Every entry is
computed on `A` (the amount entering the action): the fold never feeds a running remainder back. -/
theorem computeFees_spec (hrp : String) (A : Int) (d : String) (hA : 0 ≤ A) (hd : validDenom d = true)
    (infos : List FeeInfo) (acc r : FeesToDistribute)
    (hv : ∀ f ∈ infos, FeeInfo.validate hrp f = .ok ())
    (h : computeFees hrp A d infos acc = .ok r) :
    r.values = acc.values ++ creditsSpec hrp A infos ∧ r.total = acc.total + total (creditsSpec hrp A infos) := by
  induction infos generalizing acc with
  | nil =>
    simp only [computeFees] at h
    cases h
    simp [creditsSpec, total]
  | cons f rest ih =>
    simp only [computeFees] at h
    obtain ⟨a, he, h⟩ := Res.bind_eq_ok.mp h
    cases feeEntryAmount_of_valid hA (hv f List.mem_cons_self) he
    have hvr : ∀ g ∈ rest, FeeInfo.validate hrp g = .ok () := fun g hg => hv g (List.mem_cons_of_mem _ hg)
    rw [creditsSpec_cons, total_append]
    by_cases hpos : entrySpec A f > 0
    · simp only [hpos, ↓reduceIte, newCoin_ok hd (Int.le_of_lt hpos), Res.bind_ok, Res.ite_err_eq_ok] at h ⊢
      obtain ⟨h1, h2⟩ := ih _ hvr h.2
      refine ⟨by rw [h1]; simp [recipientOf], ?_⟩
      rw [h2]; simp only [total, List.map_cons, List.map_nil, List.sum_cons, List.sum_nil]; omega
    · simp only [hpos, ↓reduceIte, List.nil_append] at h ⊢
      obtain ⟨h1, h2⟩ := ih _ hvr h
      exact ⟨h1, by rw [h2]; simp [total]⟩

/-- Headline: for a validated fee list on a positive amount, what is computed is the specified credit
list, the forwarded amount is `A` minus their sum, and that sum is strictly below `A`. -/
theorem c04_distribution (hrp : String) (A : Int) (d : String) (infos : List FeeInfo) (r : FeesToDistribute)
    (hA : 0 ≤ A) (hd : validDenom d = true)
    (hv : validateFeeAttrs hrp infos = .ok ())
    (h : computeFees hrp A d infos { values := [], total := 0 } = .ok r) :
    r.values = creditsSpec hrp A infos ∧ r.total = total (creditsSpec hrp A infos) := by
  have := computeFees_spec hrp A d hA hd infos _ r (validateFeeAttrs_ok.mp hv).2 h
  simpa using this

theorem c04_refused_too_many (hrp : String) (infos : List FeeInfo) (h : infos.length > 5) :
    ∃ t, validateFeeAttrs hrp infos = .err t := by
  simp only [validateFeeAttrs, pin_max_fee_recipients, h, ↓reduceIte]
  exact ⟨_, rfl⟩

theorem refused_of_entry {hrp : String} {infos : List FeeInfo} {f : FeeInfo} (hf : f ∈ infos) (h : FeeInfo.validate hrp f ≠ .ok ()) :
    ∃ t, validateFeeAttrs hrp infos = .err t :=
  (validateFeeAttrs_noPanic hrp infos).err_of_ne_ok fun _ hv => h ((validateFeeAttrs_ok.mp hv).2 f hf)

/-- A bps value of 0 or above 10000 anywhere in the list refuses the action. -/
theorem c04_refused_bad_bps (hrp : String) (infos : List FeeInfo) (f : FeeInfo) (hf : f ∈ infos) (v : Nat)
    (hft : f.feeType = .bps v) (hv : v = 0 ∨ v > 10000) : ∃ t, validateFeeAttrs hrp infos = .err t := by
  refine refused_of_entry hf fun hok => ?_
  have := (FeeInfo.validate_ok hok).1
  simp only [hft, pin_bps_normalizer] at this
  omega

/-- A fixed amount that is not a positive integer refuses the action. -/
theorem c04_refused_bad_amount (hrp : String) (infos : List FeeInfo) (f : FeeInfo) (hf : f ∈ infos) (s : String)
    (hft : f.feeType = .amount s) (hv : ∀ i, newIntFromString s = some i → i ≤ 0) :
    ∃ t, validateFeeAttrs hrp infos = .err t := by
  refine refused_of_entry hf fun hok => ?_
  have := (FeeInfo.validate_ok hok).1
  simp only [hft] at this
  obtain ⟨i, hs, hpos⟩ := this
  have := hv i hs
  omega

/-- A recipient that is not a valid address refuses the action. -/
theorem c04_refused_bad_recipient (hrp : String) (infos : List FeeInfo) (f : FeeInfo) (hf : f ∈ infos)
    (hr : accAddressFromBech32 hrp f.recipient = none) : ∃ t, validateFeeAttrs hrp infos = .err t := by
  refine refused_of_entry hf fun hok => ?_
  obtain ⟨r, h⟩ := (FeeInfo.validate_ok hok).2
  rw [hr] at h; cases h

theorem feeController_spec {cfg : Cfg} {φ : Faults} {c c' : Ctx} {t t' : TransferAttrs} {a : Action}
    (hA : 0 ≤ t.dstAmount) (hd : validDenom t.dstDenom = true) (h : feeController cfg φ c t a = .ok (c', t')) :
    ∃ infos, a.attrs = some (.fee infos) ∧ validateFeeAttrs cfg.hrp infos = .ok () ∧
      Ctx.Eff φ c c' ((creditsSpec cfg.hrp t.dstAmount infos).map fun v => .xfer cfg.orbAddr v.1 t.dstDenom v.2.toNat) [] ∧
      total (creditsSpec cfg.hrp t.dstAmount infos) < t.dstAmount ∧
      t'.dstAmount = t.dstAmount - total (creditsSpec cfg.hrp t.dstAmount infos) ∧ t'.dstDenom = t.dstDenom := by
  obtain ⟨fees, rfl, e, hlt, infos, hat, hv, hcf⟩ := feeController_eff h
  obtain ⟨hvals, htot⟩ := c04_distribution cfg.hrp t.dstAmount t.dstDenom infos fees hA hd hv hcf
  refine ⟨infos, hat, hv, hvals ▸ e, htot ▸ hlt, ?_, rfl⟩
  rw [← htot]
  simp only [TransferAttrs.setDstAmount]
  split <;> omega

/-- If the fee action succeeds, the attributes validated, the credits are the specified ones, their
sum is strictly below the amount entering the action, and the amount left is `A` minus that sum. -/
theorem c04_controller_ok (cfg : Cfg) (φ : Faults) (c c' : Ctx) (t t' : TransferAttrs) (a : Action)
    (hA : 0 ≤ t.dstAmount) (hd : validDenom t.dstDenom = true)
    (h : feeController cfg φ c t a = .ok (c', t')) :
    ∃ infos, a.attrs = some (.fee infos) ∧ validateFeeAttrs cfg.hrp infos = .ok () ∧
      total (creditsSpec cfg.hrp t.dstAmount infos) < t.dstAmount ∧
      t'.dstAmount = t.dstAmount - total (creditsSpec cfg.hrp t.dstAmount infos) ∧
      t'.dstDenom = t.dstDenom := by
  obtain ⟨infos, hat, hv, _, h⟩ := feeController_spec hA hd h
  exact ⟨infos, hat, hv, h⟩

/-- The action is refused when the total is not strictly below the amount. -/
theorem c04_refused_total (cfg : Cfg) (φ : Faults) (c : Ctx) (t : TransferAttrs) (a : Action) (infos : List FeeInfo)
    (fees : FeesToDistribute) (hat : a.attrs = some (.fee infos)) (hv : validateFeeAttrs cfg.hrp infos = .ok ())
    (hcf : computeFees cfg.hrp t.dstAmount t.dstDenom infos { values := [], total := 0 } = .ok fees)
    (hge : fees.total ≥ t.dstAmount) : ∃ e, feeController cfg φ c t a = .err e := by
  unfold feeController
  simp only [hat, Res.pure_eq, Res.bind_ok, hv, Res.mapErr, hcf, hge, ↓reduceIte]
  exact ⟨_, rfl⟩

/-! ### non-vacuity -/

example : computeFeeAmount 1000000 100 = .ok 10000 := by decide
example : computeFeeAmount 9999 1 = .ok 0 := by decide
example : (computeFeeAmount (2 ^ 255) 10000).isErr = true := by decide

end Orbiter.C04
