/-
  C07 — The middleware is transparent for everything that is not an orbiter transfer.
  "An ICS-20 transfer whose receiver is the orbiter account" is `orbiterAddressed`: the data decodes as
  ICS-20 packet data (with the transfer application's own strict decoder) and the receiver decodes to the
  module address. For every other packet the stack with the middleware and the stack without it return
  the same acknowledgement and the same context (ledger, external state, moves, events, calls, requests),
  and the module's own state is returned untouched.
  The acknowledgement / timeout / send callbacks have no code in the module: `IBCMiddleware` embeds the
  wrapped `IBCModule` and `ICS4Wrapper`, and Go promotes their methods. That this is so for the built code is
  the coverage obligation `pin_only_recv_has_code` (regenerated on every run from the method table of the
  type: a promoted method is a compiler-generated wrapper); that the promoted methods hand arguments and
  results through unchanged is Go's embedding rule, checked against a recording fake by the stream.
-/
import Orbiter.Lemmas.Recv
import Orbiter.Step
namespace Orbiter.C07
open Orbiter

/-- Coverage obligation: of all the methods of the middleware type (value and pointer receiver), `OnRecvPacket` is the
only one written in the package; the acknowledgement, timeout and channel-handshake callbacks and the ICS-4 methods
(`SendPacket`, `WriteAcknowledgement`, `GetAppVersion`) are the embedded fields' own, promoted by the compiler. A method
added to the type later — a new place where foreign traffic could be treated differently — breaks this. -/
theorem pin_only_recv_has_code : Gen.middlewareOwnMethods = ["OnRecvPacket"] := rfl

/-- …and the callbacks the property speaks of are all there. -/
theorem pin_callbacks_promoted :
    ∀ m ∈ ["OnAcknowledgementPacket", "OnTimeoutPacket", "SendPacket", "WriteAcknowledgement", "GetAppVersion",
           "OnChanOpenInit", "OnChanOpenTry", "OnChanOpenAck", "OnChanOpenConfirm", "OnChanCloseInit", "OnChanCloseConfirm"],
      m ∈ Gen.middlewareMethods ∧ m ∉ Gen.middlewareOwnMethods := by decide +kernel

/-- Coverage obligation: behind the `transfer` port the application wires blockibc around the orbiter middleware around the
ICS-20 module and nothing else — the composition `stackOnRecv` (`Recv.lean`) is written for, and the one the comparison
"with and without the middleware" (`bareOnRecv`) removes exactly one layer of. -/
theorem pin_ibc_stack : Gen.ibcStack = ["blockibc.IBCMiddleware", "entrypoint.IBCMiddleware", "transfer.IBCModule"] := rfl

def orbiterAddressed (cfg : Cfg) (pkt : Packet) : Prop :=
  ∃ d, decFTPD pkt.data = some d ∧ accAddressFromBech32 cfg.hrp d.receiver = some cfg.orbAddr

/-- The adapter's classification is exactly that predicate: it says "not mine" iff the packet is not an
ICS-20 transfer to the orbiter account — whatever the memo contains. -/
theorem c07_classification (wr : Wiring) (pkt : Packet) :
    adaptPacket wr pkt = .ok .notOrbiter ↔ ¬ orbiterAddressed wr.cfg pkt := by
  unfold adaptPacket orbiterAddressed
  cases hd : decFTPD pkt.data with
  | none => simp
  | some d =>
    simp only [Option.some.injEq, exists_eq_left']
    cases hr : accAddressFromBech32 wr.cfg.hrp d.receiver with
    | none => simp
    | some r =>
      simp only [Option.some.injEq]
      by_cases he : r = wr.cfg.orbAddr
      · subst he
        simp only [bne_self_eq_false, Bool.false_eq_true, ↓reduceIte, not_true_eq_false, iff_false]
        -- the remaining block ends in `pure (.orbiter …)` or an error: it cannot return `.notOrbiter`
        cases newIntFromString d.amount <;>
          simp [Res.bind_eq_ok, Res.bind_err, Res.ite_err_eq_ok, Res.mapErr_eq_ok, newTransferAttrs]
      · have : (r != wr.cfg.orbAddr) = true := by simpa using he
        simp [this, he]

/-- **Transparency.** For a packet that is not an orbiter transfer, on channels as ibc-go core assigns
them, the stack with the middleware returns exactly what the stack without it returns: the same
acknowledgement, and the same resulting context — ledger, external state, list of coin movements, events,
external calls, bridge requests — and the module's own state unchanged. This holds in every module state
`o` (pause sets, parameters, statistics) and under every fault oracle. -/
theorem c07_transparent (wr : Wiring) (φ : Faults) (o : OrbState) (c0 : Ctx) (pkt : Packet)
    (hdst : crossChainValid PROTOCOL_IBC pkt.dstChan = true) (hsrc : (pkt.srcPort == "" || pkt.srcChan == "") = false)
    (hno : ¬ orbiterAddressed wr.cfg pkt) :
    stackOnRecv wr φ o c0 pkt = bareOnRecv wr o c0 pkt := by
  have hcl := (c07_classification wr pkt).mpr hno
  have hr : (!Gen.adapterRoutes.contains PROTOCOL_IBC) = false := by decide
  unfold stackOnRecv bareOnRecv
  cases blockibcCheck c0 pkt with
  | err e => rfl
  | panic e => rfl
  | ok u =>
    simp only
    unfold mwOnRecv
    simp only [hdst, Bool.not_true, Bool.false_eq_true, ↓reduceIte, hsrc, hr, hcl]

/-- The module's own state is untouched by foreign traffic. -/
theorem c07_own_state_untouched (wr : Wiring) (φ : Faults) (o : OrbState) (c0 : Ctx) (pkt : Packet)
    (hdst : crossChainValid PROTOCOL_IBC pkt.dstChan = true) (hsrc : (pkt.srcPort == "" || pkt.srcChan == "") = false)
    (hno : ¬ orbiterAddressed wr.cfg pkt) : (stackOnRecv wr φ o c0 pkt).orb = o := by
  rw [c07_transparent wr φ o c0 pkt hdst hsrc hno]
  unfold bareOnRecv
  cases blockibcCheck c0 pkt with
  | err e => rfl
  | panic e => rfl
  | ok u =>
    simp only
    cases ics20Recv wr.cfg c0 pkt <;> rfl

/-- …also after ibc-go core's commit/discard step: the committed worlds coincide. -/
theorem c07_committed (wr : Wiring) (φ : Faults) (w : World) (pkt : Packet)
    (hdst : crossChainValid PROTOCOL_IBC pkt.dstChan = true) (hsrc : (pkt.srcPort == "" || pkt.srcChan == "") = false)
    (hno : ¬ orbiterAddressed wr.cfg pkt) :
    ibcRecv wr φ w pkt =
      (let out := bareOnRecv wr w.orb (ctxOf w) pkt
       if out.ack.isSuccess then out else { ack := out.ack, ctx := ctxOf w, orb := w.orb }) := by
  unfold ibcRecv
  rw [c07_transparent wr φ w.orb (ctxOf w) pkt hdst hsrc hno]

/-- Even without the assumption on the channel identifiers, a packet refused by the middleware's own
entry checks changes nothing: the result context and the module state are the ones before. -/
theorem c07_entry_checks_change_nothing (wr : Wiring) (φ : Faults) (o : OrbState) (c0 : Ctx) (pkt : Packet)
    (h : crossChainValid PROTOCOL_IBC pkt.dstChan = false ∨ (pkt.srcPort == "" || pkt.srcChan == "") = true) :
    (mwOnRecv wr φ o c0 pkt).ctx = c0 ∧ (mwOnRecv wr φ o c0 pkt).orb = o ∧ (mwOnRecv wr φ o c0 pkt).ack.isSuccess = false := by
  unfold mwOnRecv
  rcases h with h | h
  · simp [h, Ack.isSuccess]
  · by_cases h1 : crossChainValid PROTOCOL_IBC pkt.dstChan = true
    · simp [h1, h, Ack.isSuccess]
    · simp [h1, Ack.isSuccess]

/-! ### histories
The chain without the middleware, as a machine over the same operations: receives go to the wrapped
application alone, everything else (governance messages, deposits, environment changes, genesis round
trips) is the same. -/

/-- ibc-go core `RecvPacket` over the stack without the middleware. -/
def bareRecv (wr : Wiring) (w : World) (pkt : Packet) : RecvOut :=
  let out := bareOnRecv wr w.orb (ctxOf w) pkt
  if out.ack.isSuccess then out else { ack := out.ack, ctx := ctxOf w, orb := w.orb }

def stepBare (wr : Wiring) (φ : Faults) (w : World) : Op → Obs × World
  | .recv pkt =>
    let out := bareRecv wr w pkt
    (.recv out.ack out.ctx.moves out.ctx.reqs out.ctx.events out.ctx.calls, out.world)
  | op => step wr φ w op

/-- A packet of foreign traffic on channels as ibc-go core assigns them. -/
def Foreign (wr : Wiring) (pkt : Packet) : Prop :=
  crossChainValid PROTOCOL_IBC pkt.dstChan = true ∧ (pkt.srcPort == "" || pkt.srcChan == "") = false ∧ ¬ orbiterAddressed wr.cfg pkt

/-- Histories, keeping what each operation let the outside observe. -/
def runObs (f : World → Op → Obs × World) (w : World) : List Op → List Obs × World
  | [] => ([], w)
  | op :: ops => let r := f w op; let rest := runObs f r.2 ops; (r.1 :: rest.1, rest.2)

theorem c07_step (wr : Wiring) (φ : Faults) (w : World) (op : Op) (h : ∀ pkt, op = .recv pkt → Foreign wr pkt) :
    step wr φ w op = stepBare wr φ w op := by
  cases op with
  | recv pkt =>
    obtain ⟨h1, h2, h3⟩ := h pkt rfl
    simp only [step, stepBare, bareRecv, c07_committed wr φ w pkt h1 h2 h3]
  | _ => rfl

/-- **Transparency over histories.** Any history of operations — governance messages in any order (so every
pause and parameter state), deposits, environment changes, genesis round trips, and received packets none
of which is an orbiter transfer — leaves the chain with the middleware and the chain without it in the
same world, having shown the same acknowledgements, coin movements, events, external calls and bridge
requests at every step. -/
theorem c07_history (wr : Wiring) (φ : Faults) (ops : List Op) (w : World)
    (h : ∀ pkt, Op.recv pkt ∈ ops → Foreign wr pkt) :
    runObs (step wr φ) w ops = runObs (stepBare wr φ) w ops := by
  induction ops generalizing w with
  | nil => rfl
  | cons op ops ih =>
    simp only [runObs]
    rw [c07_step wr φ w op (fun pkt e => h pkt (by rw [e]; exact List.mem_cons_self))]
    rw [ih _ (fun pkt hm => h pkt (List.mem_cons_of_mem _ hm))]

/-- …and the module's own state after a history made of foreign packets only is the one before it. -/
theorem c07_history_own_state (wr : Wiring) (φ : Faults) (pkts : List Packet) (w : World)
    (h : ∀ pkt ∈ pkts, Foreign wr pkt) :
    (runObs (step wr φ) w (pkts.map Op.recv)).2.orb = w.orb := by
  induction pkts generalizing w with
  | nil => rfl
  | cons pkt pkts ih =>
    simp only [List.map_cons, runObs]
    rw [ih _ (fun p hp => h p (List.mem_cons_of_mem _ hp))]
    obtain ⟨h1, h2, h3⟩ := h pkt List.mem_cons_self
    simp only [step, RecvOut.world]
    unfold ibcRecv
    simp only
    split
    · exact c07_own_state_untouched wr φ w.orb (ctxOf w) pkt h1 h2 h3
    · rfl

/-! ### non-vacuity: the channel hypothesis holds for the identifiers ibc-go assigns -/
example : crossChainValid PROTOCOL_IBC "channel-0" = true ∧ crossChainValid PROTOCOL_IBC "channel-18446744073709551615" = true := by
  decide +kernel

end Orbiter.C07
