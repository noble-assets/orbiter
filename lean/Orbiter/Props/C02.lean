/-
  C02 — Every successful transfer conserves value across the whole ledger.
  On the chain's wiring, a successfully acknowledged orbiter transfer makes exactly these ledger moves, in
  this order, and the committed ledger is their replay on the ledger before:
    sweep      : the pre-existing orbiter balance of the denomination (if any) → dust collector
    release    : escrow of the channel → orbiter, the packet's coin (A of D)
    fee credits: orbiter → recipient, one per positive entry, in payload order
    route      : CCTP      orbiter → cctp module → fiat-tokenfactory module, burned there   (F of D)
                 Hyperlane orbiter → warp module (collateral), then the default hook's gas payment if the
                           mailbox has an IGP hook (the payment is the known finding of C11)
                 internal  orbiter → recipient                                                (F of D)
  with  A = Σ fee credits + F  and  F > 0  and every fee credit > 0.
  Hence: nothing is minted; only the CCTP route burns, exactly F; no account other than those named moves.
-/
import Orbiter.Props.C01  -- for the coverage obligations in its closure (`pin_external_surface` of C05 among them), as for `Expect`
import Orbiter.Props.C04
import Orbiter.Props.C16
import Orbiter.Expect
namespace Orbiter.C02
open Orbiter

/-- Coverage obligation for "nothing is minted, only the named accounts move": the bank offers the module a balance read and a
plain send, nothing else (no mint, burn, delegation or module-to-module helper), as `Ctx.send` assumes. -/
theorem pin_bank_surface :
    Gen.externalSurface.lookup "types.BankKeeper" =
      some ["GetBalance func(context.Context, types.AccAddress, string) types.Coin",
            "SendCoins func(context.Context, types.AccAddress, types.AccAddress, types.Coins) error"] ∧
    Gen.externalSurface.lookup "action.BankKeeperFee" =
      some ["SendCoins func(context.Context, types.AccAddress, types.AccAddress, types.Coins) error"] := ⟨rfl, rfl⟩

def feeMoves (orb : Addr) (denom : String) (credits : List (Bytes × Int)) : List Move :=
  credits.map fun v => .xfer orb v.1 denom v.2.toNat

def sweepMoves (cfg : Cfg) (c : Ctx) (denom : String) : List Move :=
  if c.bank.bal cfg.orbAddr denom = 0 then [] else [.xfer cfg.orbAddr cfg.dustAddr denom (c.bank.bal cfg.orbAddr denom)]

theorem dispatchActions_app_steps {cfg : Cfg} {π : OneofOrder} {φ : Faults} {o : OrbState} {acts : List Action} {c c' : Ctx} {t t' : TransferAttrs}
    (h : dispatchActions (appWiring cfg π) φ o acts c t = .ok (c', t')) :
    ∃ credits : List (Bytes × Int), Ctx.Steps c c' (feeMoves cfg.orbAddr t.dstDenom credits) ∧
      (∀ v ∈ credits, v.2 > 0) ∧ t'.dstAmount = t.dstAmount - C04.total credits ∧ (0 < t.dstAmount → 0 < t'.dstAmount) ∧
      t'.dstDenom = t.dstDenom := by
  refine dispatchActions_app_rec (P := fun c t c' t' => ∃ credits : List (Bytes × Int),
      Ctx.Steps c c' (feeMoves cfg.orbAddr t.dstDenom credits) ∧ (∀ v ∈ credits, v.2 > 0) ∧
      t'.dstAmount = t.dstAmount - C04.total credits ∧ (0 < t.dstAmount → 0 < t'.dstAmount) ∧ t'.dstDenom = t.dstDenom)
    (fun c t => ⟨[], Ctx.Steps.refl c, nofun, by simp [C04.total], id, rfl⟩) ?_ h
  intro c t a c1 t1 c' t' ht hx ⟨cr2, s2, p2, a2, pos2, d2⟩
  obtain ⟨_, _, _, hcv, hpos⟩ := TransferAttrs.validate_ok.mp ht
  obtain ⟨infos, _, _, e1, hlt, hleft, hden⟩ := C04.feeController_spec (Int.le_of_lt hpos) (coinValid_denom hcv) hx
  rw [hden] at s2 d2
  refine ⟨C04.creditsSpec cfg.hrp t.dstAmount infos ++ cr2, by simpa [feeMoves] using e1.toSteps.trans s2, fun v hv => ?_, ?_,
    fun _ => pos2 (by omega), d2⟩
  · exact (List.mem_append.mp hv).elim (C04.creditsSpec_pos v) (p2 v)
  · rw [a2, hleft, C04.total_append]; omega

/-- The moves of the outgoing route for an amount `F` of `D`. -/
inductive RouteMoves (cfg : Cfg) (D : String) (F : Nat) : Int → List Move → Prop
  | cctp : RouteMoves cfg D F PROTOCOL_CCTP
      [.xfer cfg.orbAddr cfg.cctpModule D F, .xfer cfg.cctpModule cfg.ftfModule D F, .burn cfg.ftfModule D F]
  | hyp : RouteMoves cfg D F PROTOCOL_HYPERLANE [.xfer cfg.orbAddr cfg.warpModule D F]
  | hypIgp (idenom : String) (charge : Nat) : RouteMoves cfg D F PROTOCOL_HYPERLANE
      [.xfer cfg.orbAddr cfg.warpModule D F, .xfer cfg.orbAddr cfg.hypModule idenom charge]
  | internal (dst : Addr) (hne : dst ≠ cfg.orbAddr) : RouteMoves cfg D F PROTOCOL_INTERNAL [.xfer cfg.orbAddr dst D F]

theorem forwarderHandle_app_steps {cfg : Cfg} {π : OneofOrder} {φ : Faults} {o : OrbState} {c c' : Ctx} {t : TransferAttrs} {f : Forwarding}
    (h : forwarderHandle (appWiring cfg π) φ o c t f = .ok c') :
    ∃ ms, RouteMoves cfg t.dstDenom t.dstAmount.toNat f.protocolId ms ∧ Ctx.Steps c c' ms := by
  rcases forwarderHandle_app_ok h with ⟨hid, h⟩ | ⟨hid, h⟩ | ⟨hid, h⟩ <;> rw [hid]
  · obtain ⟨_, e, _⟩ := cctpController_eff h
    exact ⟨_, .cctp, e.toSteps⟩
  · obtain ⟨_, _, rfl | ⟨_, _, rfl⟩, e, _⟩ := hypController_eff h
    · exact ⟨_, .hyp, e.toSteps⟩
    · exact ⟨_, .hypIgp _ _, e.toSteps⟩
  · obtain ⟨dst, _, hne, e, _⟩ := internalController_eff h
    exact ⟨_, .internal dst hne, e.toSteps⟩

/-- **C02.** The complete ledger effect of a successfully acknowledged orbiter transfer on the chain's
wiring: the recorded moves are sweep ++ release ++ fee credits ++ route, the committed ledger is their
replay on the ledger before, the released coin equals the fee credits plus the forwarded amount, the
forwarded amount and every fee credit are strictly positive. -/
theorem c02_conservation (cfg : Cfg) (π : OneofOrder) (φ : Faults) (w : World) (pkt : Packet) (t : TransferAttrs) (p : Payload)
    (hs : (ibcRecv (appWiring cfg π) φ w pkt).ack.isSuccess = true) (ha : adaptPacket (appWiring cfg π) pkt = .ok (.orbiter t p)) :
    ∃ (credits : List (Bytes × Int)) (F : Int) (f : Forwarding) (route : List Move),
      p.forwarding = some f ∧
      RouteMoves cfg t.srcDenom F.toNat f.protocolId route ∧
      (ibcRecv (appWiring cfg π) φ w pkt).ctx.moves =
        sweepMoves cfg (ctxOf w) t.srcDenom ++
        [.xfer (cfg.escrow pkt.dstPort pkt.dstChan) cfg.orbAddr t.srcDenom t.srcAmount.toNat] ++
        feeMoves cfg.orbAddr t.srcDenom credits ++ route ∧
      w.bank.replay (ibcRecv (appWiring cfg π) φ w pkt).ctx.moves = some (ibcRecv (appWiring cfg π) φ w pkt).ctx.bank ∧
      t.srcAmount = C04.total credits + F ∧ F > 0 ∧ (∀ v ∈ credits, v.2 > 0) := by
  obtain ⟨s⟩ := ibcRecv_success_stages hs ha
  obtain ⟨k⟩ := adaptPacket_ok ha
  have hdd := k.dstDenom
  have hdamt := k.dstAmount
  have htv := k.valid
  have s1 : Ctx.Steps (ctxOf w) s.c1 (sweepMoves cfg (ctxOf w) t.dstDenom) := (beforeTransferHook_eff s.hook).toSteps
  have s2 : Ctx.Steps s.c1 s.c2 [.xfer (cfg.escrow pkt.dstPort pkt.dstChan) cfg.orbAddr t.srcDenom t.srcAmount.toNat] :=
    C16.wrappedApp_steps ha s.app
  obtain ⟨credits, s3, cpos, hamt, hF, hd3⟩ := dispatchActions_app_steps s.actions
  obtain ⟨route, hroute, s4⟩ := forwarderHandle_app_steps s.forwarder
  have sall := (((s1.trans s2).trans s3).trans s4).trans (Ctx.emit_eff s.emitted).toSteps
  rw [hd3, hdd] at hroute
  rw [hdd, List.append_nil] at sall
  refine ⟨credits, s.t'.dstAmount, s.f, route, s.forwarding, hroute, by simpa [ctxOf] using sall.moves, ?_, by omega,
    hF (TransferAttrs.validate_ok.mp htv).2.2.2.2, cpos⟩
  rw [sall.moves]
  exact sall.bank

/-- Nothing is ever minted by an orbiter transfer, and only the CCTP route burns — exactly the forwarded
amount of the forwarded denomination. -/
theorem c02_supply (cfg : Cfg) (D : String) (F : Nat) (pid : Int) (route : List Move) (h : RouteMoves cfg D F pid route) :
    (∀ m ∈ route, ∀ a d n, m ≠ .mint a d n) ∧
    ((∃ a d n, Move.burn a d n ∈ route) → pid = PROTOCOL_CCTP ∧ Move.burn cfg.ftfModule D F ∈ route) := by
  cases h with
  | cctp => exact ⟨by intro m hm a d n e; subst e; simp at hm, fun _ => ⟨rfl, by simp⟩⟩
  | hyp => exact ⟨by intro m hm a d n e; subst e; simp at hm, by rintro ⟨a, d, n, hm⟩; simp at hm⟩
  | hypIgp i c => exact ⟨by intro m hm a d n e; subst e; simp at hm, by rintro ⟨a, d, n, hm⟩; simp at hm⟩
  | internal dst hne => exact ⟨by intro m hm a d n e; subst e; simp at hm, by rintro ⟨a, d, n, hm⟩; simp at hm⟩

/-- Does a move name this account (as source or destination)? -/
def touches (a : Addr) : Move → Prop
  | .xfer s d _ _ => a = s ∨ a = d
  | .burn s _ _ => a = s
  | .mint d _ _ => a = d

theorem replay_bystander (ms : List Move) (l l' : Ledger) (h : l.replay ms = some l') (a : Addr)
    (hna : ∀ m ∈ ms, ¬ touches a m) : ∀ d, l'.bal a d = l.bal a d := by
  refine Ledger.replay_rel (R := fun l l' => ∀ d, l'.bal a d = l.bal a d) (fun _ _ => rfl) (fun h1 h2 d => (h2 d).trans (h1 d)) ?_ h
  intro m hm l l' ha d
  have hnm := hna m hm
  cases m with
  | xfer s dd dn n =>
    simp only [touches, not_or] at hnm
    rw [Ledger.send_bal ha a d]
    simp [hnm.1, hnm.2]
  | burn s dn n =>
    simp only [touches] at hnm
    rw [Ledger.burn_bal ha a d]
    simp [hnm]
  | mint dd dn n =>
    simp only [touches] at hnm
    cases ha
    rw [Ledger.mint_bal]
    simp [hnm]

theorem xfer_before_route {cfg : Cfg} {c : Ctx} {D : String} {esc orb : Addr} {A : Nat} {credits : List (Bytes × Int)} {m : Move}
    (hm : m ∈ sweepMoves cfg c D ++ [.xfer esc orb D A] ++ feeMoves orb D credits) : ∃ s d dn n, m = .xfer s d dn n := by
  simp only [List.mem_append, List.mem_singleton, feeMoves, List.mem_map] at hm
  rcases hm with (hm | hm) | ⟨v, _, rfl⟩
  · unfold sweepMoves at hm
    split at hm
    · cases hm
    · exact ⟨_, _, _, _, List.mem_singleton.mp hm⟩
  · exact ⟨_, _, _, _, hm⟩
  · exact ⟨_, _, _, _, rfl⟩

/-- **Bystanders.** After a successful orbiter transfer, an account that is none of: the channel's escrow
account, the orbiter account, the dust collector, a fee recipient, an account of the outgoing route — keeps
every balance it had. -/
theorem c02_bystanders (cfg : Cfg) (π : OneofOrder) (φ : Faults) (w : World) (pkt : Packet) (t : TransferAttrs) (p : Payload)
    (hs : (ibcRecv (appWiring cfg π) φ w pkt).ack.isSuccess = true) (ha : adaptPacket (appWiring cfg π) pkt = .ok (.orbiter t p))
    (a : Addr) (hna : ∀ m ∈ (ibcRecv (appWiring cfg π) φ w pkt).ctx.moves, ¬ touches a m) (d : String) :
    (ibcRecv (appWiring cfg π) φ w pkt).ctx.bank.bal a d = w.bank.bal a d := by
  obtain ⟨_, _, _, _, _, _, _, hrep, _⟩ := c02_conservation cfg π φ w pkt t p hs ha
  exact replay_bystander _ _ _ hrep a hna d

/-- **Supply.** On the Hyperlane and internal routes the total supply of every denomination is unchanged. -/
theorem c02_supply_unchanged_without_cctp (cfg : Cfg) (π : OneofOrder) (φ : Faults) (w : World) (pkt : Packet) (t : TransferAttrs) (p : Payload)
    (hs : (ibcRecv (appWiring cfg π) φ w pkt).ack.isSuccess = true) (ha : adaptPacket (appWiring cfg π) pkt = .ok (.orbiter t p))
    (f : Forwarding) (hf : p.forwarding = some f) (hne : f.protocolId ≠ PROTOCOL_CCTP) :
    (ibcRecv (appWiring cfg π) φ w pkt).ctx.bank.supply = w.bank.supply := by
  obtain ⟨credits, F, f', route, hf', hroute, hmoves, hrep, _⟩ := c02_conservation cfg π φ w pkt t p hs ha
  rw [hf] at hf'
  simp only [Option.some.injEq] at hf'
  subst hf'
  apply Ledger.replay_supply_unchanged hrep
  intro m hm
  rw [hmoves] at hm
  rcases List.mem_append.mp hm with hm | hm
  · exact xfer_before_route hm
  · generalize f.protocolId = pid at hroute hne
    cases hroute with
    | cctp => exact absurd rfl hne
    | hyp => exact ⟨_, _, _, _, List.mem_singleton.mp hm⟩
    | hypIgp i c =>
      simp only [List.mem_cons, List.mem_nil_iff, or_false] at hm
      rcases hm with hm | hm <;> exact ⟨_, _, _, _, hm⟩
    | internal dst hne' => exact ⟨_, _, _, _, List.mem_singleton.mp hm⟩

/-- **Supply never grows.** Whatever the route, a successfully acknowledged orbiter transfer mints nothing: the total supply
of every denomination afterwards is at most what it was before (it is smaller exactly by what CCTP burnt). -/
theorem c02_supply_never_grows (cfg : Cfg) (π : OneofOrder) (φ : Faults) (w : World) (pkt : Packet) (t : TransferAttrs) (p : Payload)
    (hs : (ibcRecv (appWiring cfg π) φ w pkt).ack.isSuccess = true) (ha : adaptPacket (appWiring cfg π) pkt = .ok (.orbiter t p))
    (dn : String) : (ibcRecv (appWiring cfg π) φ w pkt).ctx.bank.supply dn ≤ w.bank.supply dn := by
  obtain ⟨credits, F, f, route, _, hroute, hmoves, hrep, _⟩ := c02_conservation cfg π φ w pkt t p hs ha
  apply Ledger.replay_supply_le hrep
  intro m hm a d n e
  rw [hmoves] at hm
  rcases List.mem_append.mp hm with hm | hm
  · obtain ⟨_, _, _, _, hx⟩ := xfer_before_route hm
    rw [hx] at e; cases e
  · exact (c02_supply cfg _ _ _ route hroute).1 m hm a d n e

end Orbiter.C02
