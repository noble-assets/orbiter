/-
  C06 — Actions run in payload order on the running amount; the final coin is forwarded.
  All statements but the last hold for any wiring: any set of registered action and forwarding
  controllers, including ones that change the denomination.
-/
import Orbiter.Props.C05
namespace Orbiter.C06
open Orbiter

/-- Order: the first listed action runs first, on the incoming context and attributes; the rest run on
whatever it returned. -/
theorem c06_in_order (wr : Wiring) (φ : Faults) (o : OrbState) (a : Action) (rest : List Action) (c : Ctx) (t : TransferAttrs) :
    dispatchActions wr φ o (a :: rest) c t =
      executorHandle wr φ o c t a >>= fun r => dispatchActions wr φ o rest r.1 r.2 := by
  simp only [dispatchActions]

/-- …hence, at any position: the actions before a point run first, and what follows sees exactly the
context and the attributes (amount and denomination) they left. -/
theorem c06_append (wr : Wiring) (φ : Faults) (o : OrbState) (xs ys : List Action) (c : Ctx) (t : TransferAttrs) :
    dispatchActions wr φ o (xs ++ ys) c t =
      dispatchActions wr φ o xs c t >>= fun r => dispatchActions wr φ o ys r.1 r.2 := by
  induction xs generalizing c t with
  | nil => simp [dispatchActions]
  | cons x rest ih =>
    simp only [List.cons_append, dispatchActions]
    cases executorHandle wr φ o c t x with
    | ok r => obtain ⟨c1, t1⟩ := r; simp only [Res.bind_ok]; exact ih c1 t1
    | err e => rfl
    | panic e => rfl

/-- Each action's controller is called with exactly the running context and attributes, and its output is
what the run continues with. -/
theorem c06_controller_sees_running (wr : Wiring) (φ : Faults) (o : OrbState) (c : Ctx) (t : TransferAttrs) (a : Action)
    (r : Ctx × TransferAttrs) (h : executorHandle wr φ o c t a = .ok r) :
    ∃ ctl, wr.actions a.id = some ctl ∧ ctl φ c t a = .ok r :=
  (executorHandle_ok h).2.2.2

/-- The forwarding step receives exactly the context and the attributes left by the last action. -/
theorem c06_forwarder_gets_final (wr : Wiring) (φ : Faults) (o o' : OrbState) (c c' : Ctx) (t t' : TransferAttrs) (p : Payload)
    (h : dispatchPayload wr φ o c t p = .ok (c', t', o')) :
    ∃ c1 f, dispatchActions wr φ o p.preActions c t = .ok (c1, t') ∧ p.forwarding = some f ∧
      forwarderHandle wr φ o c1 t' f = .ok c' := by
  obtain ⟨c1, f, _, h1, h2, h3, _⟩ := dispatchPayload_ok h
  exact ⟨c1, f, h1, h2, h3⟩

/-- …and it runs only if the module account holds exactly that amount of that denomination: the coin it
is about to send is the whole balance, nothing more and nothing less. -/
theorem c06_forward_exact_balance (wr : Wiring) (φ : Faults) (o : OrbState) (c c' : Ctx) (t : TransferAttrs) (f : Forwarding)
    (h : forwarderHandle wr φ o c t f = .ok c') : (c.bank.bal wr.cfg.orbAddr t.dstDenom : Int) = t.dstAmount := by
  obtain ⟨r⟩ := forwarderHandle_ok h
  exact r.balance

def reqCoin : Req → String × Int
  | .cctp _ amount _ _ tok _ => (tok, amount)
  | .warp _ _ _ _ amount _ _ _ _ _ => ("", amount)     -- the denomination is implied by the token id
  | .bankSend _ _ d amount => (d, amount)
  | .swap _ _ d amount => (d, amount)

/-- On the chain's wiring the bridge request carries exactly the amount (and, for CCTP and the internal
route, the denomination) left by the last action; for Hyperlane the token's collateral denomination must
equal it (`hypctl:denom-mismatch` otherwise). -/
theorem c06_sends_final_coin (cfg : Cfg) (π : OneofOrder) (φ : Faults) (o : OrbState) (c c' : Ctx) (t : TransferAttrs) (f : Forwarding)
    (h : forwarderHandle (appWiring cfg π) φ o c t f = .ok c') :
    ∃ r, c'.reqs = c.reqs ++ [r] ∧ (reqCoin r).2 = t.dstAmount ∧ (f.protocolId ≠ PROTOCOL_HYPERLANE → (reqCoin r).1 = t.dstDenom) := by
  rcases forwarderHandle_app_ok h with ⟨_, h⟩ | ⟨hid, h⟩ | ⟨_, h⟩
  · obtain ⟨_, _, _, _, hr⟩ := C05.c05_cctp_request cfg φ c c' t f h
    exact ⟨_, hr, rfl, fun _ => rfl⟩
  · obtain ⟨_, _, _, _, _, _, _, _, _, hr⟩ := C05.c05_hyp_request cfg φ c c' t f h
    exact ⟨_, hr, rfl, fun hn => absurd hid hn⟩
  · obtain ⟨_, _, hr⟩ := C05.c05_internal_request cfg φ c c' t f h
    exact ⟨_, hr, rfl, fun _ => rfl⟩

/-- A payload repeating an action identifier is refused — by the dispatcher, whatever the controllers. -/
theorem c06_duplicate_refused (wr : Wiring) (φ : Faults) (o : OrbState) (c : Ctx) (t : TransferAttrs) (p : Payload)
    (hd : hasDupIds (p.preActions.map (·.id)) = true) (r : Ctx × TransferAttrs × OrbState) :
    dispatchPayload wr φ o c t p ≠ .ok r := by
  intro h
  obtain ⟨c', t', o'⟩ := r
  obtain ⟨_, _, hv, _⟩ := dispatchPayload_ok h
  rw [(Payload.validate_ok.mp hv).1] at hd
  cases hd

/-- …and already by the parser's validation of the decoded payload. -/
theorem c06_duplicate_refused_at_parse (p : RawPayload) (hn : p.preActions.any Option.isNone = false)
    (hd : hasDupIds ((p.preActions.filterMap id).map (·.id)) = true) : RawPayload.validate p = .err "payload:repeated-action" := by
  unfold RawPayload.validate
  simp [hn, hd]

/-! ### non-vacuity -/
example : hasDupIds [1, 2, 1] = true ∧ hasDupIds [1, 2] = false := by decide

end Orbiter.C06
