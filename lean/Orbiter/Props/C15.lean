/-
  C15 — Only well-formed payloads are accepted.
  Proved: soundness of acceptance. Whatever the memo bytes, if the parser accepts them then the memo is one
  JSON value, an object whose only root key (however often repeated) is `orbiter`, without `null` in any
  array and without an object carrying both members of the fee-type oneof, and the payload holds exactly one forwarding with a supported protocol identifier and attributes of
  a registered *forwarding* type, and pre-actions with pairwise distinct supported identifiers and attributes
  of a registered *action* type. Parsing is a function of the memo and the oneof order only (C19 isolates
  the latter).
  Round trip: the model has the marshaller (`Orbiter/Encode.lean`: payload → tree → bytes,
  compared byte for byte with `types.MarshalJSON` by stream S1). `c15_roundtrip_tree`: for every payload the Go
  types can hold that passes `Payload.Validate` — in particular every payload built by the constructors,
  `c15_constructed` — whatever text parses to the marshalled tree is accepted by the memo parser and yields
  exactly that payload, under either oneof order. base64, decimal, `math.Int` and enum spellings are inverted
  by the decoders for every value (`Lemmas/Encode.lean`).
-/
import Orbiter.Expect
import Orbiter.Lemmas.NoPanic
import Orbiter.Lemmas.Marshal
import Orbiter.Lemmas.TextOk
namespace Orbiter.C15
open Orbiter

/-- Coverage obligation: the messages of the payload (wrapper, payload, action, forwarding, the four attribute types, fee
entries) have, in the descriptors of the built code, exactly the fields — proto names, JSON names, kinds, oneof membership —
the model's decoders and marshaller were written against. -/
theorem pin_payload_fields : Gen.payloadFields = modelPayloadFields := rfl

/-- Coverage obligation: the registered attribute types are the four the decoder resolves, each under the
interface the model files it under (the facts probe `UnpackAny` per interface on the built registry). -/
theorem pin_registered_types :
    Gen.forwardingAttrUrls = [cctpUrl, hypUrl, internalUrl] ∧ Gen.actionAttrUrls = [feeUrl] ∧
    Gen.orbiterPrefix = "orbiter" := ⟨rfl, rfl, rfl⟩

/-- Acceptance by the memo parser: the guards of `parsePayload`. -/
theorem parsePayload_ok {π : OneofOrder} {memo : Bytes} {p : Payload} :
    parsePayload π memo = .ok p ↔
      ∃ fs, parseJsonWhole memo = some (.obj fs) ∧ (Json.obj fs).preOk ∧ (Json.distinctKeys fs).length = 1 ∧
        (∃ v, Json.lookupLast fs Gen.orbiterPrefix = some v ∧ v.isNull = false) ∧
        ∃ r, decWrapper π (.obj fs) = .ok r ∧ r.validate = .ok p := by
  unfold parsePayload Json.preOk
  cases hj : parseJsonWhole memo with
  | none => simp
  | some j =>
    cases j with
    | obj fs =>
      simp only [Res.ite_err_eq_ok, Option.some.injEq, Json.obj.injEq, exists_eq_left', Bool.not_eq_true, bne_iff_ne, ne_eq,
        Decidable.not_not]
      cases hk : Json.lookupLast fs Gen.orbiterPrefix with
      | none => simp
      | some v =>
        -- the code tests the root keys between the three checks of `preOk`: regrouped by hand, simp's AC lemmas cost twice the rest
        cases v <;> simp [Res.ite_err_eq_ok, Res.bind_eq_ok, Res.mapErr_eq_ok, Json.isNull] <;>
          exact ⟨fun ⟨a, k, n, m, r⟩ => ⟨⟨a, n, m⟩, k, r⟩, fun ⟨⟨a, n, m⟩, k, r⟩ => ⟨a, k, n, m, r⟩⟩
    | _ => simp [Res.ite_err_eq_ok]

theorem c15_accepted_is_wellformed (π : OneofOrder) (memo : Bytes) (p : Payload) (h : parsePayload π memo = .ok p) :
    ∃ fs, parseJsonWhole memo = some (.obj fs) ∧ Json.distinctKeys fs = [Gen.orbiterPrefix] ∧ (Json.obj fs).nullInArray = false ∧
      (Json.obj fs).ambiguous = false ∧
      (∃ f at_, p.forwarding = some f ∧ protocolValid f.protocolId = true ∧ f.attrs = some at_ ∧ at_.isForwarding = true) ∧
      (p.preActions.map (·.id)).Nodup ∧
      (∀ a ∈ p.preActions, actionValid a.id = true ∧ ∃ at_, a.attrs = some at_ ∧ at_.isAction = true) := by
  obtain ⟨fs, hj, ⟨-, hnia, hamb⟩, hlen, ⟨v, hk, -⟩, r, hdec, hval⟩ := parsePayload_ok.mp h
  obtain ⟨-, rfl, hv⟩ := RawPayload.validate_ok.mp hval
  obtain ⟨hdup, hacts, f, hrf, hfv⟩ := Payload.validate_ok.mp hv
  obtain ⟨hfa, hff⟩ := decWrapper_families hdec
  refine ⟨fs, hj, ?_, hnia, hamb, ?_, hasDupIds_eq_false_iff.mp hdup, fun a ha => ?_⟩
  · -- the one distinct root key is the key the lookup found
    obtain ⟨k, hdk⟩ := List.length_eq_one_iff.mp hlen
    have hmem : Gen.orbiterPrefix ∈ Json.distinctKeys fs := mem_distinctKeys (lookupLast_mem hk)
    rw [hdk] at hmem ⊢
    rw [List.mem_singleton.mp hmem]
  · obtain ⟨hpv, at_, hat⟩ := Forwarding.validate_ok.mp hfv
    exact ⟨f, at_, hrf, hpv, hat, hff f hrf at_ hat⟩
  · obtain ⟨h1, at_, hat⟩ := Action.validate_ok.mp (hacts a ha)
    obtain ⟨x, hx, rfl⟩ := List.mem_filterMap.mp ha
    exact ⟨h1, at_, hat, hfa a hx at_ hat⟩

/-- Any other root key — alone or next to `orbiter` — refuses the memo. -/
theorem c15_extra_root_key_refused (π : OneofOrder) (memo : Bytes) (fs : List (String × Json))
    (hj : parseJsonWhole memo = some (.obj fs)) (hk : (Json.distinctKeys fs).length ≠ 1) :
    ∃ e, parsePayload π memo = .err e := by
  refine (parsePayload_noPanic π memo).err_of_ne_ok fun p h => ?_
  obtain ⟨fs', hj', -, hlen, -⟩ := parsePayload_ok.mp h
  cases hj.symm.trans hj'
  exact hk hlen

/-- A memo that is not one JSON value is refused. -/
theorem c15_not_json_refused (π : OneofOrder) (memo : Bytes) (hj : parseJsonWhole memo = none) :
    parsePayload π memo = .err "parse:not-json" := by
  unfold parsePayload
  simp only [hj]

/-- The decoder inverts the marshaller on every well-typed payload, valid or not (what `Validate` then says is
the same on both sides). -/
theorem c15_decode_encode (π : OneofOrder) (nilPass : Bool) (p : Payload) (ht : p.typed = true) :
    decWrapper π (encWrapper nilPass p) = .ok p.toRaw := by
  have : decOrbiterValue π (some (encPayload nilPass p)) = .ok p.toRaw := by
    rw [decOrbiterValue_some]
    exact decPayload_enc π nilPass p ht
  unfold decWrapper encWrapper asObject
  fields_simp [Dec.toRes, show Gen.orbiterPrefix = "orbiter" from rfl, this, unpack_toRaw p ht]

theorem validate_toRaw {p : Payload} (h : p.validate = .ok ()) : p.toRaw.validate = .ok p :=
  RawPayload.validate_ok.mpr ⟨by simp [Payload.toRaw], by simp [Payload.toRaw], h⟩

/-- **Round trip at tree level.** For every payload within its Go types that passes `Payload.Validate`: any memo
whose JSON value is the marshalled tree parses back to exactly that payload — for either oneof order, whichever
way an empty passthrough is spelled. -/
theorem c15_roundtrip_tree (π : OneofOrder) (nilPass : Bool) (memo : Bytes) (p : Payload)
    (hparse : parseJsonWhole memo = some (encWrapper nilPass p)) (ht : p.typed = true) (hv : p.validate = .ok ()) :
    parsePayload π memo = .ok p :=
  parsePayload_ok.mpr
    ⟨_, hparse, encWrapper_preOk nilPass p ht, rfl, ⟨_, rfl, rfl⟩, _, c15_decode_encode π nilPass p ht, validate_toRaw hv⟩

/-- **Round trip, text to payload.** Every payload within its Go types that passes `Payload.Validate` and whose free-text
fields are printable ASCII (`Payload.textOk`: every address, amount, denomination and hook metadata that validation accepts is)
serialises to a memo — the very bytes `types.MarshalJSON` writes, stream S1 — that the memo parser accepts and turns back into
exactly that payload. -/
theorem c15_roundtrip (π : OneofOrder) (nilPass : Bool) (p : Payload)
    (ht : p.typed = true) (hv : p.validate = .ok ()) (hx : p.textOk = true) :
    parsePayload π (marshalPayload nilPass p) = .ok p :=
  c15_roundtrip_tree π nilPass _ p (parse_marshalled nilPass p hx) ht hv

theorem newAttrsForwarding_ok {hrp : String} {orb : Bytes} {pid : Int} {a : Attrs} {pass : Bytes} {f : Forwarding}
    (h : newAttrsForwarding hrp orb pid a pass = .ok f) :
    a.validate hrp orb = .ok () ∧ f = { protocolId := pid, attrs := some a, passthrough := pass } ∧ protocolValid pid = true := by
  unfold newAttrsForwarding newForwarding at h
  obtain ⟨_, hval, h⟩ := Res.bind_eq_ok.mp h
  obtain ⟨_, hfv, h⟩ := Res.bind_eq_ok.mp h
  cases h
  exact ⟨hval, rfl, (Forwarding.validate_ok.mp hfv).1⟩

theorem newFeeAction_ok {hrp : String} {l : List FeeInfo} {act : Action} (h : newFeeAction hrp l = .ok act) :
    validateFeeAttrs hrp l = .ok () ∧ act = { id := ACTION_FEE, attrs := some (.fee l) } := by
  unfold newFeeAction newAction at h
  obtain ⟨_, hval, h⟩ := Res.bind_eq_ok.mp h
  obtain ⟨_, _, h⟩ := Res.bind_eq_ok.mp h
  cases h
  exact ⟨hval, rfl⟩

theorem newPayload_ok {f : Forwarding} {acts : List Action} {p : Payload} (h : newPayload f acts = .ok p) :
    p.validate = .ok () ∧ p = { forwarding := some f, preActions := acts } := by
  unfold newPayload at h
  obtain ⟨_, hv, h⟩ := Res.bind_eq_ok.mp h
  cases h
  exact ⟨hv, rfl⟩

/-- What the public constructors build is valid and within the Go types, as soon as the arguments are
(`uint32` domain and basis points, 256-bit `math.Int`s — facts of the argument types, not checks). -/
theorem c15_constructed (hrp : String) (orb : Bytes) (pid : Int) (a : Attrs) (pass : Bytes)
    (f : Forwarding) (acts : List Action) (p : Payload)
    (ha : a.isForwarding = true ∧ a.typed = true)
    (hf : newAttrsForwarding hrp orb pid a pass = .ok f)
    (hacts : ∀ act ∈ acts, ∃ l : List FeeInfo, l.all FeeInfo.typed = true ∧ newFeeAction hrp l = .ok act)
    (hp : newPayload f acts = .ok p) :
    p.validate = .ok () ∧ p.typed = true ∧ p = { forwarding := some f, preActions := acts } := by
  obtain ⟨hv, rfl⟩ := newPayload_ok hp
  obtain ⟨-, rfl, hpid⟩ := newAttrsForwarding_ok hf
  refine ⟨hv, ?_, rfl⟩
  have hat : ∀ act ∈ acts, act.typed = true := by
    intro act hact
    obtain ⟨l, hl, hx⟩ := hacts act hact
    obtain ⟨-, rfl⟩ := newFeeAction_ok hx
    simp [Action.typed, show int32Fits ACTION_FEE = true by decide, Attrs.isAction, Attrs.typed, hl]
  have hfit : int32Fits pid = true := protocolIds_ok.fits (by simp only [protocolValid, Bool.and_eq_true] at hpid; exact hpid.2)
  exact Payload.typed_iff.mpr ⟨hat, fun _ hf => by cases hf; simp [Forwarding.typed, hfit, ha.1, ha.2]⟩

/-- **Every payload built through the module's constructors serialises to a memo that parses back to an equal payload.**
The only assumptions are facts of the argument types (uint32 numbers, integers of at most 256 bits): every string the
constructors accept is printable ASCII (bech32 addresses, decimal / hex / octal amounts, `0x`+hex hook metadata, SDK
denominations — after fix `477a9aa`, which closed the one gap: any denomination string was accepted with a zero maximum fee,
and one that is not valid UTF-8 did not survive the encoding). -/
theorem c15_constructor_roundtrip (π : OneofOrder) (nilPass : Bool) (hrp : String) (orb : Bytes) (pid : Int) (a : Attrs) (pass : Bytes)
    (f : Forwarding) (acts : List Action) (p : Payload)
    (ha : a.isForwarding = true ∧ a.typed = true)
    (hf : newAttrsForwarding hrp orb pid a pass = .ok f)
    (hacts : ∀ act ∈ acts, ∃ l : List FeeInfo, l.all FeeInfo.typed = true ∧ newFeeAction hrp l = .ok act)
    (hp : newPayload f acts = .ok p) :
    parsePayload π (marshalPayload nilPass p) = .ok p := by
  obtain ⟨hv, ht, rfl⟩ := c15_constructed hrp orb pid a pass f acts p ha hf hacts hp
  refine c15_roundtrip π nilPass _ ht hv ?_
  -- the constructors validated the attributes, and validated attributes have printable text
  obtain ⟨hval, rfl, -⟩ := newAttrsForwarding_ok hf
  simp only [Payload.textOk, Bool.and_eq_true, List.all_eq_true]
  refine ⟨fun act hact => ?_, Attrs.validate_textOk hval⟩
  obtain ⟨l, -, hx⟩ := hacts act hact
  obtain ⟨hvl, rfl⟩ := newFeeAction_ok hx
  exact Attrs.validate_textOk (show (Attrs.fee l).validate hrp orb = .ok () from hvl)

-- the hypotheses of `c15_roundtrip_tree` are met by a payload as the constructors build it
example :
    let p : Payload := { forwarding := some { protocolId := PROTOCOL_CCTP, attrs := some (.cctp 0 [1, 2, 3] []), passthrough := [] },
                         preActions := [{ id := ACTION_FEE, attrs := some (.fee [{ recipient := "noble1x", feeType := .bps 100 }]) }] }
    p.typed = true ∧ p.validate = .ok () := by decide

end Orbiter.C15
