/-
  C11 — Coins already on the orbiter account never alter, fund or block a transfer.
  Method: a *perturbation* `P` adds coins `δ` to balances the receive path never debits (the orbiter's
  balances in other denominations than the transferred one, and the dust collector's balance) and prefixes
  the records of calls and moves. Under the empty fault oracle every stage after the sweep commutes with
  `P`: `stage (P c) = (stage c).map P`. Hence two executions of the same transfer that differ only in what
  was sitting on the orbiter account return the same result class at every stage (ok / the same error /
  the same panic), the same attributes, requests and events; their ledgers differ exactly by `δ`.
  The one place where it fails is the known finding: a Hyperlane default hook (IGP) that charges gas in
  another denomination debits the orbiter's balance of that denomination — excluded here by `IgpOk`.
-/
import Orbiter.Lemmas.Perturb
import Orbiter.Lemmas.Recv
namespace Orbiter.C11
open Orbiter

def sweepSite : String := "bank.SendCoinsFromModuleToModule"

/-- The perturbation touches only what the path after the sweep never debits. -/
structure Ok (P : Pert) (cfg : Cfg) (D : String) : Prop where
  orbD : P.δ cfg.orbAddr D = 0
  cctp : ∀ d, P.δ cfg.cctpModule d = 0
  ftf : ∀ d, P.δ cfg.ftfModule d = 0
  transfer : ∀ d, P.δ cfg.transferModule d = 0
  escrow : ∀ p c d, P.δ (cfg.escrow p c) d = 0
  calls : ∀ x ∈ P.calls, x.1 = sweepSite

/-- Every site but the sweep's is absent from the prefix (the side condition is a comparison of two literals). -/
theorem Ok.fresh {P : Pert} {cfg : Cfg} {D : String} (h : Ok P cfg D) (site : String) (hs : site ≠ sweepSite := by decide) : P.fresh site :=
  fun x hx e => hs (e ▸ h.calls x hx)

/-- No Hyperlane hook — the mailbox default, or any other one a payload may name — charges a denomination that was
perturbed on the orbiter account. -/
def IgpOk (P : Pert) (cfg : Cfg) (e : ExtState) : Prop :=
  ∀ idenom dom r p o, .igp idenom dom r p o ∈ e.hooks → P.δ cfg.orbAddr idenom = 0

theorem comm_cctpDepositForBurn (P : Pert) (cfg : Cfg) (c : Ctx) (amount : Int) (domain : Nat) (mint caller : Bytes) (tok : String)
    (h1 : P.δ cfg.orbAddr tok = 0) (h2 : P.δ cfg.cctpModule tok = 0) (h3 : P.δ cfg.ftfModule tok = 0) :
    cctpDepositForBurn cfg (P.ap c) amount domain mint tok caller = (cctpDepositForBurn cfg c amount domain mint tok caller).map P.ap := by
  unfold cctpDepositForBurn
  simp only [Pert.ap_ext, Pert.send_comm, Pert.burn_comm, h1, h2, h3, Res.map_bind', Res.bind_map', Res.map_ite', Res.map_err',
    Res.bind_err, Res.map_ok', Res.pure_eq]
  rfl

theorem comm_bankMsgSend (P : Pert) (cfg : Cfg) (c : Ctx) (to denom : String) (amt : Int) (h1 : P.δ cfg.orbAddr denom = 0) :
    bankMsgSend cfg (P.ap c) to denom amt = (bankMsgSend cfg c to denom amt).map P.ap := by
  unfold bankMsgSend
  cases accAddressFromBech32 cfg.hrp to with
  | none => rfl
  | some dst =>
    simp only [Pert.ap_ext, Pert.send_comm, h1, Res.map_ite', Res.map_err']

theorem comm_warpRemoteTransfer (P : Pert) (cfg : Cfg) (c : Ctx) (token hook : Bytes) (domain : Nat) (amount gas feeAmt : Int) (feeDenom : String)
    (h1 : ∀ origin, lookupTok c.ext.hypTokens token = some origin → P.δ cfg.orbAddr origin = 0) (higp : IgpOk P cfg c.ext) :
    warpRemoteTransfer cfg (P.ap c) token domain amount gas feeDenom feeAmt hook =
      (warpRemoteTransfer cfg c token domain amount gas feeDenom feeAmt hook).map P.ap := by
  unfold warpRemoteTransfer
  simp only [Pert.ap_ext]
  cases ht : lookupTok c.ext.hypTokens token with
  | none => rfl
  | some origin =>
    simp only [Res.pure_eq, Res.bind_ok, Pert.send_comm, h1 origin ht, Res.map_bind', Res.bind_map']
    apply Res.bind_congr
    intro c1 hc1
    obtain ⟨b, _, rfl⟩ := Ctx.send_ok hc1
    simp only [Pert.ap_ext]
    cases hr : lookupRouter c.ext.hypRouters token domain with
    | none => rfl
    | some rgas =>
      simp only [Res.map_ite', Res.bind_panic, Res.map_panic']
      cases hk : hookFor c.ext hook with
      | err e => rfl
      | panic e => rfl
      | ok hkv =>
        simp only [Res.bind_ok]
        cases hkv with
        | noop => simp only [Res.map_ok']
        | igp idenom idomain rate price overhead =>
          have hz := higp idenom idomain rate price overhead (hookFor_mem hk)
          simp only [Pert.send_comm, hz, Res.map_ite', Res.map_err', Res.map_panic']

theorem comm_payFees (P : Pert) (orb : Addr) (denom : String) (hf : P.fresh "bank.SendCoins") (h1 : P.δ orb denom = 0)
    (l : List (Bytes × Int)) (c : Ctx) : payFees noFaults orb denom l (P.ap c) = (payFees noFaults orb denom l c).map P.ap := by
  induction l generalizing c with
  | nil => rfl
  | cons v rest ih =>
    simp only [payFees, P.call_comm c _ hf, Res.map_bind', Res.bind_map', Pert.send_comm, h1]
    apply Res.bind_congr; intro c1 _
    apply Res.bind_congr; intro c2 _
    exact ih c2

def liftP {β} (P : Pert) (r : Ctx × β) : Ctx × β := (P.ap r.1, r.2)

theorem comm_feeController (P : Pert) (cfg : Cfg) (c : Ctx) (t : TransferAttrs) (a : Action) (hok : Ok P cfg t.dstDenom) :
    feeController cfg noFaults (P.ap c) t a = (feeController cfg noFaults c t a).map (liftP P) := by
  unfold feeController
  cases a.attrs with
  | none => rfl
  | some at_ =>
    cases at_ with
    | fee infos =>
      simp only [Res.pure_eq, Res.bind_ok, Res.bind_map']
      apply Res.bind_congr; intro _ _
      apply Res.bind_congr; intro fees _
      simp only [Res.map_ite', Res.bind_err, Res.map_err', comm_payFees P cfg.orbAddr t.dstDenom (hok.fresh "bank.SendCoins") hok.orbD,
        Res.map_bind', Res.bind_map', P.emit_comm _ _ (hok.fresh "event.Emit"), Res.map_ok', liftP]
    | _ => rfl

theorem comm_executorHandle (P : Pert) (cfg : Cfg) (π : OneofOrder) (o : OrbState) (c : Ctx) (t : TransferAttrs) (a : Action) (hok : Ok P cfg t.dstDenom) :
    executorHandle (appWiring cfg π) noFaults o (P.ap c) t a = (executorHandle (appWiring cfg π) noFaults o c t a).map (liftP P) := by
  rw [executorHandle_eq, executorHandle_eq, Res.bind_map']
  apply Res.bind_congr; intro _ _
  rw [Res.map_ite', Res.map_err']
  cases hr : (appWiring cfg π).actions a.id with
  | none => rfl
  | some ctl =>
    obtain ⟨_, rfl⟩ := appActionRouter_some hr
    simp only [comm_feeController P cfg c t a hok]

theorem comm_dispatchActions (P : Pert) (cfg : Cfg) (π : OneofOrder) (o : OrbState) (acts : List Action) (c : Ctx) (t : TransferAttrs)
    (hok : Ok P cfg t.dstDenom) :
    dispatchActions (appWiring cfg π) noFaults o acts (P.ap c) t = (dispatchActions (appWiring cfg π) noFaults o acts c t).map (liftP P) := by
  induction acts generalizing c t with
  | nil => rfl
  | cons x rest ih =>
    simp only [dispatchActions, comm_executorHandle P cfg π o c t x hok, Res.map_bind', Res.bind_map']
    apply Res.bind_congr
    intro r hr
    obtain ⟨c1, t1⟩ := r
    simp only [liftP]
    exact ih c1 t1 (by rw [executorHandle_app_denom hr]; exact hok)

theorem comm_cctpController (P : Pert) (cfg : Cfg) (c : Ctx) (t : TransferAttrs) (f : Forwarding) (hok : Ok P cfg t.dstDenom) :
    cctpController cfg noFaults (P.ap c) t f = (cctpController cfg noFaults c t f).map P.ap := by
  unfold cctpController
  simp only
  cases f.attrs with
  | none => rfl
  | some a =>
    simp only [Res.pure_eq, Res.bind_ok]
    cases a with
    | cctp domain mint caller =>
      simp only [Res.bind_map']
      apply Res.bind_congr; intro _ _
      have hb : ∀ c1 : Ctx, c1.ext = c.ext → cctpDepositForBurn cfg (P.ap c1) t.dstAmount domain mint t.dstDenom caller =
          (cctpDepositForBurn cfg c1 t.dstAmount domain mint t.dstDenom caller).map P.ap :=
        fun c1 _ => comm_cctpDepositForBurn P cfg c1 _ _ _ _ _ hok.orbD (hok.cctp _) (hok.ftf _)
      by_cases hc : caller.isEmpty = true
      · simp only [hc, ↓reduceIte]
        rw [P.reqCall_comm c _ "cctp.DepositForBurn" (hok.fresh "cctp.DepositForBurn") hb, Res.bind_map']
      · simp only [hc, Bool.false_eq_true, ↓reduceIte]
        rw [P.reqCall_comm c _ "cctp.DepositForBurnWithCaller" (hok.fresh "cctp.DepositForBurnWithCaller") hb, Res.bind_map']
    | hyp => rfl
    | internal => rfl
    | fee => rfl

theorem comm_hypController (P : Pert) (cfg : Cfg) (c : Ctx) (t : TransferAttrs) (f : Forwarding) (hok : Ok P cfg t.dstDenom)
    (higp : IgpOk P cfg c.ext) :
    hypController cfg noFaults (P.ap c) t f = (hypController cfg noFaults c t f).map P.ap := by
  unfold hypController
  simp only
  cases f.attrs with
  | none => rfl
  | some a =>
    simp only [Res.pure_eq, Res.bind_ok]
    cases a with
    | hyp tok domain rec_ hook hmeta gas feeDenom feeAmt =>
      simp only [Res.bind_map']
      apply Res.bind_congr; intro _ _
      apply Res.bind_congr; intro _ _
      simp only [P.call_comm _ _ (hok.fresh "warp.Token"), Res.map_bind']
      apply Res.bind_congr; intro c1 hc1
      have he1 : c1.ext = c.ext := (Ctx.call_eff hc1).ext
      simp only [Pert.ap_ext]
      cases ht : lookupTok c1.ext.hypTokens tok with
      | none => rfl
      | some origin =>
        simp only [Res.map_ite', Res.bind_err, Res.map_err']
        by_cases ho : (origin != t.dstDenom) = true
        · simp only [ho, ↓reduceIte]
        · simp only [ho, Bool.false_eq_true, ↓reduceIte]
          have horig : origin = t.dstDenom := by simpa using ho
          refine P.reqCall_comm c1 _ _ (hok.fresh "warp.RemoteTransfer")
            (b := fun c => warpRemoteTransfer cfg c tok domain t.dstAmount gas feeDenom feeAmt hook) fun c2 he2 => ?_
          apply comm_warpRemoteTransfer
          · intro origin' ho'
            rw [he2, ht] at ho'
            cases ho'
            rw [horig]; exact hok.orbD
          · rw [he2, he1]; exact higp
    | cctp => rfl
    | internal => rfl
    | fee => rfl

theorem comm_internalController (P : Pert) (cfg : Cfg) (c : Ctx) (t : TransferAttrs) (f : Forwarding) (hok : Ok P cfg t.dstDenom) :
    internalController cfg noFaults (P.ap c) t f = (internalController cfg noFaults c t f).map P.ap := by
  unfold internalController
  simp only
  cases f.attrs with
  | none => rfl
  | some a =>
    simp only [Res.pure_eq, Res.bind_ok]
    cases a with
    | internal recipient =>
      simp only [Res.bind_map']
      apply Res.bind_congr; intro _ _
      apply Res.bind_congr; intro _ _
      apply Res.bind_congr; intro _ _
      rw [P.reqCall_comm c _ "bank.Send" (hok.fresh "bank.Send") (b := fun c => bankMsgSend cfg c recipient t.dstDenom t.dstAmount)
        (fun c1 _ => comm_bankMsgSend P cfg c1 _ _ _ hok.orbD), Res.bind_map']
    | cctp => rfl
    | hyp => rfl
    | fee => rfl

theorem comm_forwarderHandle (P : Pert) (cfg : Cfg) (π : OneofOrder) (o : OrbState) (c : Ctx) (t : TransferAttrs) (f : Forwarding)
    (hok : Ok P cfg t.dstDenom) (higp : IgpOk P cfg c.ext) :
    forwarderHandle (appWiring cfg π) noFaults o (P.ap c) t f = (forwarderHandle (appWiring cfg π) noFaults o c t f).map P.ap := by
  rw [forwarderHandle_eq, forwarderHandle_eq, Res.bind_map']
  apply Res.bind_congr; intro _ _
  cases f.attrs with
  | none => rfl
  | some a =>
    -- the balance the forwarder compares is not perturbed
    have hz : P.δ (appWiring cfg π).cfg.orbAddr t.dstDenom = 0 := hok.orbD
    simp only [Pert.ap_bal, hz, Nat.add_zero, Res.map_ite', Res.map_err']
    cases hr : (appWiring cfg π).forwardings f.protocolId with
    | none => rfl
    | some ctl =>
      rcases appForwardingRouter_some hr with ⟨_, rfl⟩ | ⟨_, rfl⟩ | ⟨_, rfl⟩
      · simp only [comm_cctpController P cfg c t f hok]
      · simp only [comm_hypController P cfg c t f hok higp]
      · simp only [comm_internalController P cfg c t f hok]

theorem dispatchActions_ext {cfg : Cfg} {π : OneofOrder} {φ : Faults} {o : OrbState} (acts : List Action) (c c' : Ctx) (t t' : TransferAttrs)
    (h : dispatchActions (appWiring cfg π) φ o acts c t = .ok (c', t')) : c'.ext = c.ext ∧ t'.dstDenom = t.dstDenom := by
  obtain ⟨hd, _, e⟩ := dispatchActions_app_eff h
  exact ⟨e.ext, hd⟩

theorem comm_dispatchPayload (P : Pert) (cfg : Cfg) (π : OneofOrder) (o : OrbState) (c : Ctx) (t : TransferAttrs) (p : Payload)
    (hok : Ok P cfg t.dstDenom) (higp : IgpOk P cfg c.ext) :
    dispatchPayload (appWiring cfg π) noFaults o (P.ap c) t p = (dispatchPayload (appWiring cfg π) noFaults o c t p).map (liftP P) := by
  unfold dispatchPayload
  simp only [Res.bind_map']
  apply Res.bind_congr; intro _ _
  simp only [comm_dispatchActions P cfg π o p.preActions c t hok, Res.map_bind']
  apply Res.bind_congr
  intro r hr
  obtain ⟨c1, t1⟩ := r
  obtain ⟨he, hd⟩ := dispatchActions_ext _ _ _ _ _ hr
  simp only [liftP]
  cases p.forwarding with
  | none => rfl
  | some f =>
    simp only [Res.pure_eq, Res.bind_ok]
    rw [comm_forwarderHandle P cfg π o c1 t1 f (by rw [hd]; exact hok) (by rw [he]; exact higp)]
    simp only [Res.map_bind', Res.bind_map', Res.map_ok', liftP]

theorem comm_processPayload (P : Pert) (cfg : Cfg) (π : OneofOrder) (o : OrbState) (c : Ctx) (t : TransferAttrs) (p : Payload)
    (hok : Ok P cfg t.dstDenom) (higp : IgpOk P cfg c.ext) :
    processPayload (appWiring cfg π) noFaults o (P.ap c) t p = (processPayload (appWiring cfg π) noFaults o c t p).map (liftP P) := by
  unfold processPayload
  simp only [comm_dispatchPayload P cfg π o c t p hok higp, Res.map_bind', Res.bind_map']
  apply Res.bind_congr
  intro r _
  obtain ⟨c1, t1, o1⟩ := r
  simp only [liftP, P.emit_comm _ _ (hok.fresh "event.Emit"), Res.map_bind', Res.map_ok', Res.pure_eq]

theorem comm_ics20Recv (P : Pert) (cfg : Cfg) {D : String} (c : Ctx) (pkt : Packet) (hok : Ok P cfg D) :
    ics20Recv cfg (P.ap c) pkt = (ics20Recv cfg c pkt).map P.ap := by
  unfold ics20Recv
  cases decFTPD pkt.data with
  | none => rfl
  | some d =>
    simp only
    cases newIntFromString d.amount with
    | none => rfl
    | some amt =>
      simp only [Res.pure_eq, Res.bind_ok, Pert.ap_ext, Res.map_ite', Res.bind_err, Res.map_err']
      cases accAddressFromBech32 cfg.hrp d.receiver with
      | none => simp only [Res.map_err']
      | some r =>
        simp only [Pert.send_comm, hok.escrow, hok.transfer, Res.map_bind', Res.bind_map', Res.map_ite', Res.map_err',
          Pert.ap_ext, Res.map_panic', Pert.mint_comm, Res.map_ok']
        rfl

theorem comm_wrappedApp (P : Pert) (cfg : Cfg) (π : OneofOrder) {D : String} (c : Ctx) (pkt : Packet) (hok : Ok P cfg D) :
    wrappedApp (appWiring cfg π) noFaults (P.ap c) pkt = (wrappedApp (appWiring cfg π) noFaults c pkt).map P.ap := by
  unfold wrappedApp
  simp only [P.call_comm _ _ (hok.fresh "app.OnRecvPacket"), Res.map_bind', Res.bind_map']
  apply Res.bind_congr
  intro c1 _
  exact comm_ics20Recv P cfg c1 pkt hok

/-! The external state along the path: the primitives keep it (`Ctx.Eff`), ICS-20 writes its escrow bookkeeping only (`ics20Recv_frame`). -/

theorem call_ext {φ : Faults} {c c' : Ctx} {s : String} (h : Ctx.call φ c s = .ok c') : c'.ext = c.ext := (Ctx.call_eff h).ext

theorem send_ext {c c' : Ctx} {a b : Addr} {d tag : String} {n : Nat} (h : c.send a b d n tag = .ok c') : c'.ext = c.ext :=
  (Ctx.send_eff (φ := noFaults) h).ext

theorem ics20_hook_same {cfg : Cfg} {c c' : Ctx} {pkt : Packet} (h : ics20Recv cfg c pkt = .ok c') : c'.ext.hooks = c.ext.hooks :=
  (ics20Recv_frame h).2.2 ExtState.hooks fun _ _ => rfl

theorem ics20_routers_same {cfg : Cfg} {c c' : Ctx} {pkt : Packet} (h : ics20Recv cfg c pkt = .ok c') : c'.ext.hypRouters = c.ext.hypRouters :=
  (ics20Recv_frame h).2.2 ExtState.hypRouters fun _ _ => rfl

structure Distinct (cfg : Cfg) : Prop where
  dust : cfg.dustAddr ≠ cfg.orbAddr
  cctp : cfg.cctpModule ≠ cfg.orbAddr ∧ cfg.cctpModule ≠ cfg.dustAddr
  ftf : cfg.ftfModule ≠ cfg.orbAddr ∧ cfg.ftfModule ≠ cfg.dustAddr
  transfer : cfg.transferModule ≠ cfg.orbAddr ∧ cfg.transferModule ≠ cfg.dustAddr
  escrow : ∀ p c, cfg.escrow p c ≠ cfg.orbAddr ∧ cfg.escrow p c ≠ cfg.dustAddr

/-- Coverage obligation for "coins already on the account never alter a transfer": the module reads the orbiter's balance one
denomination at a time (`GetBalance`) and has no other read of it (`GetAllBalances`, `SpendableCoins`, …) — the reads the
perturbation argument (`Lemmas/Perturb.lean`) accounts for are all there are. -/
theorem pin_bank_reads :
    Gen.externalSurface.lookup "types.BankKeeper" =
      some ["GetBalance func(context.Context, types.AccAddress, string) types.Coin",
            "SendCoins func(context.Context, types.AccAddress, types.AccAddress, types.Coins) error"] := rfl

/-- Coverage obligation: the module accounts of the built application are pairwise different. -/
theorem pin_distinct :
    Gen.dustCollectorAddress ≠ Gen.moduleAddress ∧
    Gen.cctpModuleAddress ≠ Gen.moduleAddress ∧ Gen.cctpModuleAddress ≠ Gen.dustCollectorAddress ∧
    Gen.ftfModuleAddress ≠ Gen.moduleAddress ∧ Gen.ftfModuleAddress ≠ Gen.dustCollectorAddress ∧
    Gen.transferModuleAddress ≠ Gen.moduleAddress ∧ Gen.transferModuleAddress ≠ Gen.dustCollectorAddress := by decide

/-- Coverage obligation: in the built application the dust collector is a module account that cannot receive transfers
from users (blocked address with an account permission entry), and the orbiter account is not blocked — ICS-20 must be able to
credit it. -/
theorem pin_dust_collector_blocked :
    Gen.dustCollectorBlocked = true ∧ Gen.dustCollectorHasAccountPermission = true ∧ Gen.orbiterBlocked = false ∧
    Gen.blockedAddresses.contains Gen.dustCollectorAddress = true ∧ Gen.blockedAddresses.contains Gen.moduleAddress = false := by decide

/-- The world with `ε d` more coins of every denomination `d` on the orbiter account. -/
def withExtra (cfg : Cfg) (w : World) (ε : String → Nat) : World :=
  { w with bank := { w.bank with bal := fun a d => w.bank.bal a d + (if a = cfg.orbAddr then ε d else 0) } }

/-- Where the extra coins are after the sweep: the transferred denomination on the dust collector, the
others still on the orbiter account. -/
def extraAfter (cfg : Cfg) (D : String) (ε : String → Nat) : Addr → String → Nat := fun a d =>
  if a = cfg.orbAddr ∧ d ≠ D then ε d else if a = cfg.dustAddr ∧ d = D then ε D else 0

theorem extraAfter_of_ne {cfg : Cfg} {D : String} {ε : String → Nat} {a : Addr} (h1 : a ≠ cfg.orbAddr) (h2 : a ≠ cfg.dustAddr) (d : String) :
    extraAfter cfg D ε a d = 0 := by
  simp [extraAfter, h1, h2]

theorem extraAfter_orb {cfg : Cfg} (hd : cfg.dustAddr ≠ cfg.orbAddr) {D d : String} {ε : String → Nat} (h : d = D ∨ ε d = 0) :
    extraAfter cfg D ε cfg.orbAddr d = 0 := by
  rcases h with rfl | h
  · simp [extraAfter, hd.symm]
  · simp only [extraAfter, true_and, hd.symm, false_and, ↓reduceIte, ite_eq_right_iff]
    exact fun _ => h

theorem hook_result {cfg : Cfg} {π : OneofOrder} (hd : Distinct cfg) {o : OrbState} {w : World} {t : TransferAttrs} {p : Payload} {c1 : Ctx}
    (h : beforeTransferHook (appWiring cfg π) noFaults o (ctxOf w) t p = .ok c1) :
    c1.ext = w.ext ∧ c1.reqs = [] ∧ c1.events = [] ∧ (∀ x ∈ c1.calls, x.1 = sweepSite) ∧ c1.bank.supply = w.bank.supply ∧
    (∀ a d, c1.bank.bal a d =
      if a = cfg.orbAddr ∧ d = t.dstDenom then 0
      else if a = cfg.dustAddr ∧ d = t.dstDenom then w.bank.bal a d + w.bank.bal cfg.orbAddr t.dstDenom
      else w.bank.bal a d) := by
  have e := beforeTransferHook_eff h
  -- what `Ctx.Eff` does not record: events, the sites of the calls, the supply
  have key : c1.events = [] ∧ (∀ x ∈ c1.calls, x.1 = sweepSite) ∧ c1.bank.supply = w.bank.supply := by
    rcases beforeTransferHook_ok h with ⟨_, rfl⟩ | ⟨_, c0, hc0, h⟩
    · exact ⟨rfl, (fun x hx => by cases hx), rfl⟩
    · obtain ⟨rfl, _⟩ := Ctx.call_ok hc0
      obtain ⟨b, hb, rfl⟩ := Ctx.send_ok h
      exact ⟨rfl, (fun x hx => by cases List.mem_singleton.mp hx; rfl), Ledger.send_supply hb⟩
  exact ⟨e.ext, e.reqs, key.1, key.2.1, key.2.2, beforeTransferHook_bal hd.dust h⟩

/-- **C11.** Two executions of the same orbiter transfer on the chain's wiring, from worlds that differ only
in coins sitting on the orbiter account (`ε d` more of every denomination `d`), under the empty fault oracle,
when the sweep itself is not refused in either and the Hyperlane hook does not charge a denomination in which
they differ: the same acknowledgement, the same module state (statistics), the same bridge requests and
events; and on success the ledgers differ exactly by the extra coins — those of the transferred denomination
on the dust collector, the others still on the orbiter account. -/
theorem c11_extra_coins_irrelevant (cfg : Cfg) (hd : Distinct cfg) (π : OneofOrder) (w : World) (ε : String → Nat) (pkt : Packet)
    (t : TransferAttrs) (p : Payload) (ha : adaptPacket (appWiring cfg π) pkt = .ok (.orbiter t p))
    (c1 c1' : Ctx)
    (hh : beforeTransferHook (appWiring cfg π) noFaults w.orb (ctxOf w) t p = .ok c1)
    (hh' : beforeTransferHook (appWiring cfg π) noFaults w.orb (ctxOf (withExtra cfg w ε)) t p = .ok c1')
    (higp : ∀ idenom dom r pr ov, .igp idenom dom r pr ov ∈ w.ext.hooks → idenom = t.dstDenom ∨ ε idenom = 0) :
    (ibcRecv (appWiring cfg π) noFaults (withExtra cfg w ε) pkt).ack = (ibcRecv (appWiring cfg π) noFaults w pkt).ack ∧
    (ibcRecv (appWiring cfg π) noFaults (withExtra cfg w ε) pkt).orb = (ibcRecv (appWiring cfg π) noFaults w pkt).orb ∧
    ((ibcRecv (appWiring cfg π) noFaults w pkt).ack.isSuccess = true →
      (ibcRecv (appWiring cfg π) noFaults (withExtra cfg w ε) pkt).ctx.reqs = (ibcRecv (appWiring cfg π) noFaults w pkt).ctx.reqs ∧
      (ibcRecv (appWiring cfg π) noFaults (withExtra cfg w ε) pkt).ctx.events = (ibcRecv (appWiring cfg π) noFaults w pkt).ctx.events ∧
      ∀ a d, (ibcRecv (appWiring cfg π) noFaults (withExtra cfg w ε) pkt).ctx.bank.bal a d =
        (ibcRecv (appWiring cfg π) noFaults w pkt).ctx.bank.bal a d + extraAfter cfg t.dstDenom ε a d) := by
  obtain ⟨e1, r1, v1, k1, s1, b1⟩ := hook_result hd hh
  obtain ⟨e2, r2, v2, k2, s2, b2⟩ := hook_result hd hh'
  have hne : ¬ cfg.orbAddr = cfg.dustAddr := fun e => hd.dust e.symm
  -- the common base: the ledger after the sweep of `w`, without records
  let c0 : Ctx := { bank := c1.bank, ext := w.ext }
  let P₁ : Pert := { δ := fun _ _ => 0, calls := c1.calls, moves := c1.moves }
  let P₂ : Pert := { δ := extraAfter cfg t.dstDenom ε, calls := c1'.calls, moves := c1'.moves }
  have hc1 : c1 = P₁.ap c0 := by
    obtain ⟨bank, ext, moves, calls, reqs, events⟩ := c1
    simp only at e1 r1 v1
    subst e1 r1 v1
    simp [Pert.ap, c0, P₁]
  have hc1' : c1' = P₂.ap c0 := by
    obtain ⟨bank', ext', moves', calls', reqs', events'⟩ := c1'
    simp only at e2 r2 v2 s2 b2
    simp only [withExtra] at e2 s2 b2
    subst e2 r2 v2
    have hbank : bank' = { bal := fun a d => c1.bank.bal a d + extraAfter cfg t.dstDenom ε a d, supply := c1.bank.supply } := by
      obtain ⟨bal', sup'⟩ := bank'
      simp only at s2 b2
      simp only [Ledger.mk.injEq]
      refine ⟨?_, by rw [s2, s1]⟩
      funext a d
      rw [b2 a d, b1 a d]
      simp only [extraAfter]
      by_cases h1 : a = cfg.orbAddr
      · subst h1
        by_cases h2 : d = t.dstDenom
        · subst h2; simp [hne]
        · simp [h2, hne]
      · by_cases h3 : a = cfg.dustAddr
        · subst h3
          by_cases h2 : d = t.dstDenom
          · subst h2; simp [h1]; omega
          · simp [h1, h2]
        · simp [h1, h3]
    simp [Pert.ap, c0, P₂, hbank]
  have ok1 : Ok P₁ cfg t.dstDenom := ⟨rfl, fun _ => rfl, fun _ => rfl, fun _ => rfl, fun _ _ _ => rfl, k1⟩
  have ok2 : Ok P₂ cfg t.dstDenom :=
    ⟨extraAfter_orb hd.dust (.inl rfl), extraAfter_of_ne hd.cctp.1 hd.cctp.2, extraAfter_of_ne hd.ftf.1 hd.ftf.2,
      extraAfter_of_ne hd.transfer.1 hd.transfer.2, fun pp cc => extraAfter_of_ne (hd.escrow pp cc).1 (hd.escrow pp cc).2, k2⟩
  have igp1 : ∀ e, IgpOk P₁ cfg e := fun _ _ _ _ _ _ _ => rfl
  have igp2 : ∀ e : ExtState, e.hooks = w.ext.hooks → IgpOk P₂ cfg e :=
    fun e he idenom dom r pr ov hi => extraAfter_orb hd.dust (higp idenom dom r pr ov (he ▸ hi))
  -- both executions, stage by stage
  -- blockibc reads the external state only
  have hblock : blockibcCheck (ctxOf (withExtra cfg w ε)) pkt = blockibcCheck (ctxOf w) pkt := rfl
  unfold ibcRecv stackOnRecv mwOnRecv
  rw [hblock]
  cases blockibcCheck (ctxOf w) pkt with
  | err e => exact ⟨rfl, rfl, fun h => by simp [Ack.isSuccess] at h⟩
  | panic e => exact ⟨rfl, rfl, fun h => by simp [Ack.isSuccess] at h⟩
  | ok u =>
    simp only
    -- the three entry checks read the packet only (`rw [if_neg]`, not `split`: `split` abstracts the whole remaining stack each time)
    by_cases g1 : (!crossChainValid PROTOCOL_IBC pkt.dstChan) = true
    · rw [if_pos g1, if_pos g1]; exact ⟨rfl, rfl, fun h => by simp [Ack.isSuccess] at h⟩
    rw [if_neg g1, if_neg g1]
    by_cases g2 : (pkt.srcPort == "" || pkt.srcChan == "") = true
    · rw [if_pos g2, if_pos g2]; exact ⟨rfl, rfl, fun h => by simp [Ack.isSuccess] at h⟩
    rw [if_neg g2, if_neg g2]
    by_cases g3 : (!Gen.adapterRoutes.contains PROTOCOL_IBC) = true
    · rw [if_pos g3, if_pos g3]; exact ⟨rfl, rfl, fun h => by simp [Ack.isSuccess] at h⟩
    rw [if_neg g3, if_neg g3]
    simp only [ha, hh, hh', show (withExtra cfg w ε).orb = w.orb from rfl]
    rw [hc1, hc1', comm_wrappedApp P₁ cfg π c0 pkt ok1, comm_wrappedApp P₂ cfg π c0 pkt ok2]
    cases hw : wrappedApp (appWiring cfg π) noFaults c0 pkt with
    | err e => exact ⟨rfl, rfl, fun h => by simp [Res.map, Ack.isSuccess] at h⟩
    | panic e => exact ⟨rfl, rfl, fun h => by simp [Res.map, Ack.isSuccess] at h⟩
    | ok c2 =>
      simp only [Res.map]
      have hhook2 : c2.ext.hooks = w.ext.hooks := (wrappedApp_frame hw).2.2 ExtState.hooks fun _ _ => rfl
      simp only [comm_processPayload P₁ cfg π w.orb c2 t p ok1 (igp1 _), comm_processPayload P₂ cfg π w.orb c2 t p ok2 (igp2 _ hhook2)]
      cases hp : processPayload (appWiring cfg π) noFaults w.orb c2 t p with
      | err e => exact ⟨rfl, rfl, fun h => by simp [Res.map, Ack.isSuccess] at h⟩
      | panic e => exact ⟨rfl, rfl, fun h => by simp [Res.map, Ack.isSuccess] at h⟩
      | ok r =>
        obtain ⟨c3, o3⟩ := r
        simp only [Res.map, liftP, Ack.isSuccess, ↓reduceIte]
        exact ⟨trivial, trivial, fun _ => ⟨rfl, rfl, fun a d => by simp only [Pert.ap_bal, P₁, P₂, Nat.add_zero]⟩⟩

end Orbiter.C11
