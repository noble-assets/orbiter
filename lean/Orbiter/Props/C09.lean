/-
  C09 — A paused action is never executed; payloads without it are unaffected.
  The abstract state and the message refinement are those of C08 (`C08.abs`, `C08.c08_msg_refines`,
  field `actions`); here: the executor consults exactly that set, a refused transfer leaves no effect, and
  payloads without a paused action behave as if nothing were paused.
-/
import Orbiter.Props.C08
import Orbiter.Lemmas.NoPanic
namespace Orbiter.C09
open Orbiter Orbiter.C08

/-- The executor refuses a paused action whatever the controller, the context and the faults — the
controller is never reached (the refusal is decided before the routing). -/
theorem c09_enforced (wr : Wiring) (φ : Faults) (o : OrbState) (c : Ctx) (t : TransferAttrs) (a : Action)
    (hp : (abs o).actions a.id = true) :
    executorHandle wr φ o c t a = .err "executor:action-paused" ∨
    ∃ e, executorHandle wr φ o c t a = .err ("executor:validate:" ++ e) := by
  rw [executorHandle_eq]
  have hm : o.pausedActions.contains a.id = true := hp
  cases hv : (a.validate >>= fun _ => t.validate) with
  | err e => exact Or.inr ⟨e, rfl⟩
  | panic e =>
    -- neither validator panics
    exact ((Res.PanicsIn.bind (Action.validate_noPanic a) fun _ _ => TransferAttrs.validate_noPanic t) e hv).elim
  | ok u => exact Or.inl (by simp only [Res.mapErr, Res.bind_ok, hm, ↓reduceIte])

/-- In particular the result is never a success and never depends on the registered controllers. -/
theorem c09_never_ok (wr : Wiring) (φ : Faults) (o : OrbState) (c : Ctx) (t : TransferAttrs) (a : Action)
    (hp : (abs o).actions a.id = true) (r : Ctx × TransferAttrs) : executorHandle wr φ o c t a ≠ .ok r := by
  rcases c09_enforced wr φ o c t a hp with h | ⟨e, h⟩ <;> rw [h] <;> exact fun h => nomatch h

/-- A payload containing a paused action — at any position — is never dispatched. -/
theorem c09_actions_refused (wr : Wiring) (φ : Faults) (o : OrbState) (acts : List Action) (a : Action)
    (ha : a ∈ acts) (hp : (abs o).actions a.id = true) (c : Ctx) (t : TransferAttrs) (r : Ctx × TransferAttrs) :
    dispatchActions wr φ o acts c t ≠ .ok r := by
  induction acts generalizing c t with
  | nil => cases ha
  | cons x rest ih =>
    intro h
    simp only [dispatchActions] at h
    obtain ⟨⟨c1, t1⟩, hx, h⟩ := Res.bind_eq_ok.mp h
    rcases List.mem_cons.mp ha with rfl | hm
    · exact c09_never_ok wr φ o c t a hp _ hx
    · exact ih hm c1 t1 h

/-- Packet level: the whole transfer is refused with an error acknowledgement and nothing takes effect —
no fee of an earlier action, no credit, no statistics: the committed world is the one before. -/
theorem c09_paused_refused_no_effect (wr : Wiring) (φ : Faults) (w : World) (pkt : Packet) (t : TransferAttrs) (p : Payload)
    (a : Action) (hpk : adaptPacket wr pkt = .ok (.orbiter t p)) (ha : a ∈ p.preActions)
    (hp : (abs w.orb).actions a.id = true) :
    (ibcRecv wr φ w pkt).ack.isSuccess = false ∧ (ibcRecv wr φ w pkt).world = w := by
  refine ibcRecv_refused fun hs => ?_
  obtain ⟨s⟩ := ibcRecv_success_stages hs hpk
  exact c09_actions_refused wr φ w.orb p.preActions a ha hp s.c2 t _ s.actions

/-- Payloads that contain no paused action are executed exactly as if nothing were paused. -/
theorem c09_others_unaffected (wr : Wiring) (φ : Faults) (o : OrbState) (acts : List Action)
    (h : ∀ a ∈ acts, (abs o).actions a.id = false) (c : Ctx) (t : TransferAttrs) :
    dispatchActions wr φ o acts c t = dispatchActions wr φ { o with pausedActions := [] } acts c t :=
  dispatchActions_congr (b := { o with pausedActions := [] }) wr φ acts h c t

/-- A redundant pause or unpause is an error (and, C10 `c10_failure_changes_nothing`, changes nothing). -/
theorem c09_redundant_pause_fails (o : OrbState) (a : Int) (h : (abs o).actions a = true) :
    ∃ e, setPausedAction o a = .err e := by
  unfold setPausedAction
  exact err_of_second_guard (show o.pausedActions.contains a = true from h)

theorem c09_redundant_unpause_fails (o : OrbState) (a : Int) (h : (abs o).actions a = false) :
    ∃ e, setUnpausedAction o a = .err e := by
  unfold setUnpausedAction
  exact err_of_second_guard (show (!o.pausedActions.contains a) = true from (Bool.not_eq_true' _).mpr h)

/-- Transfers never change the paused set. -/
theorem c09_recv_preserves (wr : Wiring) (φ : Faults) (w : World) (pkt : Packet) :
    (abs (ibcRecv wr φ w pkt).orb).actions = (abs w.orb).actions := by
  rw [c08_recv_preserves]

/-- The queries report exactly the paused set. -/
theorem c09_query_is_action_paused (o : OrbState) (name : String) (a : Int) (h : actionIdFromString name = some a) :
    queryStep o (.isActionPaused name) = .ok (.bool ((abs o).actions a)) := by
  simp [queryStep, h, abs]

theorem c09_query_paused_actions (o : OrbState) : queryStep o .pausedActions = .ok (.ints o.pausedActions) := rfl

example : ∃ o, WF o ∧ (abs o).actions 1 = true ∧ (abs o).actions 2 = false :=
  ⟨{ pausedActions := [1] }, ⟨by decide, by decide, by decide⟩, by decide, by decide⟩

end Orbiter.C09
