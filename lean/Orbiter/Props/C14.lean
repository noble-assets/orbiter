/-
  C14 — The receive path never panics on untrusted input.
  On the chain's wiring, for arbitrary packet bytes, identifiers, memo contents and attribute values, in
  every module state, ledger and environment and under every fault oracle, the stack returns an
  acknowledgement; the only abort the model can exhibit is ibc-go's own invariant check on its total-escrow
  bookkeeping (`ics20:total-escrow-negative`), which is not reachable while that bookkeeping covers the
  escrow accounts (ibc-go's invariant, outside the orbiter).
  The parser part holds by construction for the leaf decoders (they live in the panic-free `Dec` monad) and
  by `decFee_noPanic` for the one generated-marshaller panic, excluded by the null-in-array pre-check.
  Method for the rest: `Res.PanicsIn P r` is characterised constructor by constructor of the result monad (the
  simp set `np`); rewriting with it turns "this function panics only in `P`" into the conditions under which one of
  its `panic` leaves is reached, which is `True` for a function that has none.
-/
import Orbiter.Lemmas.NoPanic
import Orbiter.Props.C04  -- C04 and C11 for the coverage obligations in their closure
import Orbiter.Props.C11
import Orbiter.Props.C16
namespace Orbiter.C14
open Orbiter

/-- The parser: arbitrary bytes as memo never panic. -/
theorem c14_parser_never_panics (π : OneofOrder) (memo : Bytes) (s : String) : parsePayload π memo ≠ .panic s :=
  fun h => parsePayload_noPanic π memo s h

/-- Malformed orbiter payloads addressed to the orbiter account are refused with an error: the adapter's
result for an orbiter-addressed packet whose memo does not parse is the parser's error. -/
theorem c14_malformed_refused (wr : Wiring) (pkt : Packet) (d : FTPD) (e : String)
    (hd : decFTPD pkt.data = some d) (hr : accAddressFromBech32 wr.cfg.hrp d.receiver = some wr.cfg.orbAddr)
    (hp : parsePayload wr.π (strBytes d.memo) = .err e) : adaptPacket wr pkt = .err e := by
  unfold adaptPacket
  simp [hd, hr, hp]

@[np] theorem adaptPacket_noPanic (wr : Wiring) (pkt : Packet) : (adaptPacket wr pkt).NoPanic := by
  unfold adaptPacket
  cases decFTPD pkt.data with
  | none => exact Res.PanicsIn.ok _
  | some d =>
    simp only
    cases accAddressFromBech32 wr.cfg.hrp d.receiver with
    | none => exact Res.PanicsIn.ok _
    | some r =>
      simp only
      cases newIntFromString d.amount <;> simp only [Res.NoPanic, recoverNativeDenom, newTransferAttrs, np]

@[np] theorem beforeTransferHook_noPanic (wr : Wiring) (φ : Faults) (o : OrbState) (c : Ctx) (t : TransferAttrs) (p : Payload) :
    (beforeTransferHook wr φ o c t p).NoPanic := by
  simp only [beforeTransferHook_eq, np]

@[np] theorem blockibcCheck_noPanic (c : Ctx) (pkt : Packet) : (blockibcCheck c pkt).NoPanic := by
  unfold blockibcCheck
  cases decFTPD pkt.data with
  | none => exact Res.PanicsIn.err _
  | some d =>
    simp only
    cases bech32Decode d.receiver none <;> cases bech32Decode d.sender none <;> simp only [np]

/-- The panics of ibc-go's transfer module itself in the modelled path: `sdk.NewCoin` on a denomination the
bank would not accept, and its total-escrow invariant. -/
def ibcGoPanic (s : String) : Prop := s = "ics20:total-escrow-negative" ∨ s = "ics20:NewCoin"

/-- ICS-20 has two `panic` leaves: its total-escrow invariant, and `sdk.NewCoin` on the coin it releases from escrow. -/
theorem ics20Recv_panicsIn {P : String → Prop} (cfg : Cfg) (c : Ctx) (pkt : Packet) (hesc : P "ics20:total-escrow-negative")
    (hcoin : ∀ d amt, decFTPD pkt.data = some d → newIntFromString d.amount = some amt →
      coinValid (ibcDenom cfg (d.denom.drop (denomPrefix pkt.srcPort pkt.srcChan).length).toString) amt = false → P "ics20:NewCoin") :
    (ics20Recv cfg c pkt).PanicsIn P := by
  unfold ics20Recv
  cases hd : decFTPD pkt.data with
  | none => exact Res.PanicsIn.err _
  | some d =>
    simp only
    cases hamt : newIntFromString d.amount with
    | none => simp only [np]
    | some amt =>
      cases accAddressFromBech32 cfg.hrp d.receiver <;> simp only [np, hesc]
      exact fun _ _ _ _ _ _ => hcoin d amt hd hamt

theorem ics20_panics_only_ibcgo (cfg : Cfg) (c : Ctx) (pkt : Packet) : (ics20Recv cfg c pkt).PanicsIn ibcGoPanic :=
  ics20Recv_panicsIn cfg c pkt (Or.inl rfl) (fun _ _ _ _ _ => Or.inr rfl)

/-- For a packet the adapter accepted as an orbiter transfer, `sdk.NewCoin` inside ICS-20 cannot panic either
(the adapter validated the very coin ICS-20 builds): the only abort left is ibc-go's total-escrow invariant. -/
theorem ics20_orbiter_packet_only_escrow (wr : Wiring) (c : Ctx) (pkt : Packet) (t : TransferAttrs) (p : Payload)
    (ha : adaptPacket wr pkt = .ok (.orbiter t p)) :
    (ics20Recv wr.cfg c pkt).PanicsIn (· = "ics20:total-escrow-negative") := by
  obtain ⟨k⟩ := adaptPacket_ok ha
  obtain ⟨_, h2, h3⟩ := (C16.c16_accept_iff _ _ _ _).mp k.denom
  refine ics20Recv_panicsIn wr.cfg c pkt rfl (fun d' amt' hd' hamt' hc => ?_)
  cases k.decoded.symm.trans hd'
  cases k.amount.symm.trans hamt'
  have hden : ibcDenom wr.cfg (k.d.denom.drop (denomPrefix pkt.srcPort pkt.srcChan).length).toString = t.srcDenom := by
    rw [← h2]; exact ibcDenom_native h3
  rw [hden, (TransferAttrs.validate_ok.mp k.valid).2.1] at hc
  cases hc

/-- The two `panic` leaves of the fee computation are the method calls on a nil `math.Int`; validation has excluded them. -/
theorem feeEntryAmount_noPanic {hrp : String} {A : Int} {f : FeeInfo} (hv : FeeInfo.validate hrp f = .ok ()) :
    (feeEntryAmount A f).NoPanic := by
  have hft := (FeeInfo.validate_ok hv).1
  unfold feeEntryAmount
  generalize f.feeType = ft at hft ⊢
  cases ft with
  | unset => exact hft.elim
  | bps v => exact computeFeeAmount_noPanic A v
  | amount s =>
    obtain ⟨i, hs, _⟩ := hft
    simp only [hs]; exact Res.PanicsIn.ok _

theorem computeFees_noPanic (hrp : String) (A : Int) (d : String) (hd : validDenom d = true) (infos : List FeeInfo)
    (hv : ∀ f ∈ infos, FeeInfo.validate hrp f = .ok ()) (acc : FeesToDistribute) :
    (computeFees hrp A d infos acc).NoPanic := by
  induction infos generalizing acc with
  | nil => exact Res.PanicsIn.ok _
  | cons f rest ih =>
    have ihr := ih (fun g hg => hv g (List.mem_cons_of_mem _ hg))
    simp only [computeFees, np, feeEntryAmount_noPanic (hv f List.mem_cons_self), ihr, coinValid, hd, Bool.true_and]
    -- what is left is `NewCoin` on a positive amount
    intro a _ hpos hneg
    simp only [decide_eq_false_iff_not] at hneg
    omega

theorem feeController_noPanic (cfg : Cfg) (φ : Faults) (c : Ctx) (t : TransferAttrs) (a : Action) (ht : t.validate = .ok ()) :
    (feeController cfg φ c t a).NoPanic := by
  obtain ⟨_, _, _, hcv, _⟩ := TransferAttrs.validate_ok.mp ht
  unfold feeController
  cases a.attrs with
  | none => exact Res.PanicsIn.err _
  | some at_ =>
    cases at_ with
    | fee infos =>
      simp only [np, Res.mapErr_eq_ok]
      intro _ hval
      exact computeFees_noPanic _ _ _ (coinValid_denom hcv) infos (validateFeeAttrs_ok.mp hval).2 _
    | _ => exact Res.PanicsIn.err _

@[np] theorem executorHandle_noPanic (cfg : Cfg) (π : OneofOrder) (φ : Faults) (o : OrbState) (c : Ctx) (t : TransferAttrs) (a : Action) :
    (executorHandle (appWiring cfg π) φ o c t a).NoPanic := by
  simp only [executorHandle_eq, np, Res.mapErr_eq_ok, Res.bind_eq_ok]
  rintro _ ⟨_, _, ht⟩ _
  cases hr : (appWiring cfg π).actions a.id with
  | none => exact Res.PanicsIn.err _
  | some ctl =>
    obtain ⟨_, rfl⟩ := appActionRouter_some hr
    exact feeController_noPanic cfg φ c t a ht

@[np] theorem dispatchActions_noPanic (cfg : Cfg) (π : OneofOrder) (φ : Faults) (o : OrbState) (acts : List Action) (c : Ctx) (t : TransferAttrs) :
    (dispatchActions (appWiring cfg π) φ o acts c t).NoPanic := by
  induction acts generalizing c t with
  | nil => exact Res.PanicsIn.ok _
  | cons x rest ih => simp only [dispatchActions, np, ih]

/-- The gas paymasters of the environment are configured so that a gas limit of 64 bits — or a router's own default gas — keeps
their arithmetic (`(gas + overhead) · price · rate`, in `math.Int`) within 256 bits. A configuration for which this fails makes the
Hyperlane module panic on ordinary transfers of its own users too; it is set by the paymaster's owner, not by a payload. -/
def IgpSane (e : ExtState) : Prop :=
  ∀ dn dom rate price overhead, Hook.igp dn dom rate price overhead ∈ e.hooks →
    ∀ g : Nat, (g < 18446744073709551616 ∨ ∃ r ∈ e.hypRouters, r.2.2 = g) →
      g + overhead < pow2_256 ∧ (g + overhead) * price < pow2_256 ∧ (g + overhead) * price * rate < pow2_256

theorem IgpSane.of_eq {e e' : ExtState} (h : IgpSane e) (h1 : e'.hooks = e.hooks) (h2 : e'.hypRouters = e.hypRouters) : IgpSane e' := by
  intro dn dom rate price overhead hm g hg
  rw [h1] at hm
  rw [h2] at hg
  exact h dn dom rate price overhead hm g hg

theorem overflows256_natCast (n : Nat) (h : n < pow2_256) : overflows256 (n : Int) = false := by
  simp only [overflows256, Int.natAbs_natCast, decide_eq_false_iff_not, Nat.not_le]
  exact h

/-- `IgpSane` in the form the paymaster tests it: on the gas it computes with, an `Int` that is a 64-bit limit or a router's own gas. -/
theorem IgpSane.no_overflow {e : ExtState} (h : IgpSane e) {dn : String} {dom rate price overhead : Nat}
    (hm : Hook.igp dn dom rate price overhead ∈ e.hooks) {g : Int}
    (hg : (0 ≤ g ∧ g < 18446744073709551616) ∨ ∃ r ∈ e.hypRouters, (r.2.2 : Int) = g) :
    overflows256 (g + overhead) = false ∧ overflows256 ((g + overhead) * price) = false ∧
      overflows256 ((g + overhead) * price * rate) = false := by
  obtain ⟨n, rfl, hn⟩ : ∃ n : Nat, (n : Int) = g ∧ (n < 18446744073709551616 ∨ ∃ r ∈ e.hypRouters, r.2.2 = n) := by
    rcases hg with ⟨h0, h1⟩ | ⟨r, hr, rfl⟩
    · exact ⟨g.toNat, by omega, Or.inl (by omega)⟩
    · exact ⟨r.2.2, rfl, Or.inr ⟨r, hr, rfl⟩⟩
  obtain ⟨b1, b2, b3⟩ := h dn dom rate price overhead hm n hn
  refine ⟨?_, ?_, ?_⟩
  · rw [← Int.natCast_add]; exact overflows256_natCast _ b1
  · rw [← Int.natCast_add, ← Int.natCast_mul]; exact overflows256_natCast _ b2
  · rw [← Int.natCast_add, ← Int.natCast_mul, ← Int.natCast_mul]; exact overflows256_natCast _ b3

/-- The warp module panics on an invalid max-fee coin, and its gas paymaster on arithmetic beyond 256 bits; the attribute
validation excludes the first, and — with the gas limit bounded by it — a sane paymaster configuration the second. -/
theorem warpRemoteTransfer_noPanic (cfg : Cfg) (c : Ctx) (token hook : Bytes) (domain : Nat) (amount gas feeAmt : Int) (feeDenom : String)
    (hfee : 0 ≤ feeAmt) (hden : feeAmt ≠ 0 → validDenom feeDenom = true)
    (hgas : 0 ≤ gas ∧ gas < 18446744073709551616) (hsane : IgpSane c.ext) :
    (warpRemoteTransfer cfg c token domain amount gas feeDenom feeAmt hook).NoPanic := by
  have hguard : ¬ (feeAmt < 0 ∨ (feeAmt ≠ 0 ∧ validDenom feeDenom = false)) := by
    rintro (h | ⟨h1, h2⟩)
    · omega
    · rw [hden h1] at h2; cases h2
  unfold warpRemoteTransfer
  cases lookupTok c.ext.hypTokens token with
  | none => exact Res.PanicsIn.err _
  | some origin =>
    simp only [np]
    intro c1 hc1
    obtain ⟨_, _, rfl⟩ := Ctx.send_ok hc1
    cases hr : lookupRouter c.ext.hypRouters token domain with
    | none => exact Res.PanicsIn.err _
    | some rgas =>
      simp only [np, Bool.or_eq_true, decide_eq_true_eq, Bool.and_eq_true, bne_iff_ne, ne_eq, Bool.not_eq_true', hguard, false_imp_iff]
      intro _ hkv hk
      cases hkv with
      | noop => exact Res.PanicsIn.pure _
      | igp idenom idomain rate price overhead =>
        obtain ⟨o1, o2, o3⟩ := hsane.no_overflow (hookFor_mem hk) (g := if gas == 0 then (rgas : Int) else gas) (by
          by_cases hz : (gas == 0) = true
          · rw [if_pos hz]
            obtain ⟨r, hmem, rfl⟩ := lookupRouter_mem hr
            exact Or.inr ⟨r, hmem, rfl⟩
          · rw [if_neg hz]; exact Or.inl hgas)
        simp only [np, o1, o2, o3, Bool.false_eq_true, or_self, false_imp_iff]

/-- A Hyperlane gas limit outside 0 … 2^64−1 never passes the validation of the attributes: the payload is refused with an error
acknowledgement before anything reaches the Hyperlane module (repair `3c0ea7a`; before it, 2^255 made the module's gas
paymaster panic — `findings/C14-hyp-gas-limit-overflow.replay.json`). -/
theorem c14_gas_limit_out_of_range_refused {hrp : String} {orb tok rec_ hook : Bytes} {domain : Nat} {hmeta feeDenom : String} {gas feeAmt : Int}
    (h : gas < 0 ∨ 18446744073709551616 ≤ gas) : (Attrs.hyp tok domain rec_ hook hmeta gas feeDenom feeAmt).validate hrp orb ≠ .ok () := by
  intro hv
  obtain ⟨_, _, _, _, _, _, h1, h2, _⟩ := Attrs.validate_hyp_ok.mp hv
  omega

@[np] theorem cctpController_noPanic (cfg : Cfg) (φ : Faults) (c : Ctx) (t : TransferAttrs) (f : Forwarding) :
    (cctpController cfg φ c t f).NoPanic := by
  unfold cctpController
  cases f.attrs with
  | none => exact Res.PanicsIn.err _
  | some a => cases a <;> simp only [np]

/-- The `panic` leaves are those of the warp module, excluded by the attribute validation and the paymaster configuration. -/
theorem hypController_noPanic (cfg : Cfg) (φ : Faults) (c : Ctx) (t : TransferAttrs) (f : Forwarding) (hsane : IgpSane c.ext) :
    (hypController cfg φ c t f).NoPanic := by
  unfold hypController
  cases f.attrs with
  | none => exact Res.PanicsIn.err _
  | some a =>
    cases a with
    | hyp tok domain rec_ hook hmeta gas feeDenom feeAmt =>
      simp only [np, Res.mapErr_eq_ok]
      intro _ _ _ hval c1 hc1
      cases lookupTok c1.ext.hypTokens tok with
      | none => exact Res.PanicsIn.err _
      | some origin =>
        simp only [np]
        intro _ c2 hc2
        have he : c2.ext = c.ext := (Ctx.call_eff hc2).ext.trans (Ctx.call_eff hc1).ext
        obtain ⟨_, _, _, _, _, _, g1, g2, f1, f2⟩ := Attrs.validate_hyp_ok.mp hval
        exact warpRemoteTransfer_noPanic _ _ _ _ _ _ _ _ _ f1 (fun h => f2 (Or.inl h)) ⟨g1, g2⟩
          (he ▸ hsane)
    | _ => simp only [np]

/-- The one `panic` leaf is `NewCoin`, on the coin the controller has just validated. -/
@[np] theorem internalController_noPanic (cfg : Cfg) (φ : Faults) (c : Ctx) (t : TransferAttrs) (f : Forwarding) :
    (internalController cfg φ c t f).NoPanic := by
  unfold internalController
  cases f.attrs with
  | none => exact Res.PanicsIn.err _
  | some a =>
    cases a with
    | internal r =>
      simp only [np, Res.mapErr_eq_ok]
      intro _ ht _ _ hcv
      rw [(TransferAttrs.validate_ok.mp ht).2.2.2.1] at hcv
      cases hcv
    | _ => simp only [np]

theorem forwarderHandle_noPanic (cfg : Cfg) (π : OneofOrder) (φ : Faults) (o : OrbState) (c : Ctx) (t : TransferAttrs) (f : Forwarding)
    (hsane : IgpSane c.ext) : (forwarderHandle (appWiring cfg π) φ o c t f).NoPanic := by
  simp only [forwarderHandle_eq, np]
  intro _ _
  cases f.attrs with
  | none => exact Res.PanicsIn.err _
  | some a =>
    simp only [np]
    intro _ _ _ _
    cases hr : (appWiring cfg π).forwardings f.protocolId with
    | none => exact Res.PanicsIn.err _
    | some ctl =>
      rcases appForwardingRouter_some hr with ⟨_, rfl⟩ | ⟨_, rfl⟩ | ⟨_, rfl⟩
      · exact cctpController_noPanic cfg φ c t f
      · exact hypController_noPanic cfg φ c t f hsane
      · exact internalController_noPanic cfg φ c t f

theorem dispatchPayload_noPanic (cfg : Cfg) (π : OneofOrder) (φ : Faults) (o : OrbState) (c : Ctx) (t : TransferAttrs) (p : Payload)
    (hsane : IgpSane c.ext) : (dispatchPayload (appWiring cfg π) φ o c t p).NoPanic := by
  simp only [dispatchPayload, np]
  rintro _ _ ⟨c1, t1⟩ hr
  obtain ⟨_, _, e⟩ := dispatchActions_app_eff hr
  have he : c1.ext = c.ext := e.ext
  cases p.forwarding with
  | none => exact Res.PanicsIn.err _
  | some f => simp only [np, forwarderHandle_noPanic cfg π φ o c1 t1 f (he ▸ hsane)]

theorem IgpSane.after_app {wr : Wiring} {φ : Faults} {o : OrbState} {c0 c1 c2 : Ctx} {t : TransferAttrs} {p : Payload} {pkt : Packet}
    (hs : IgpSane c0.ext) (hh : beforeTransferHook wr φ o c0 t p = .ok c1) (hw : wrappedApp wr φ c1 pkt = .ok c2) : IgpSane c2.ext := by
  have e1 := (beforeTransferHook_eff hh).ext
  exact hs.of_eq (by rw [(wrappedApp_frame hw).2.2 ExtState.hooks (fun _ _ => rfl), e1])
    (by rw [(wrappedApp_frame hw).2.2 ExtState.hypRouters (fun _ _ => rfl), e1])

theorem orbiter_stages_panic {cfg : Cfg} {π : OneofOrder} {φ : Faults} {o : OrbState} {c0 : Ctx} {pkt : Packet} {t : TransferAttrs} {p : Payload}
    {P : String → Prop} {s : String} (hsane : IgpSane c0.ext) (hP : ∀ c, (ics20Recv cfg c pkt).PanicsIn P)
    (h : beforeTransferHook (appWiring cfg π) φ o c0 t p = .panic s ∨ ∃ c1, beforeTransferHook (appWiring cfg π) φ o c0 t p = .ok c1 ∧
      (wrappedApp (appWiring cfg π) φ c1 pkt = .panic s ∨
        ∃ c2, wrappedApp (appWiring cfg π) φ c1 pkt = .ok c2 ∧ processPayload (appWiring cfg π) φ o c2 t p = .panic s)) : P s := by
  rcases h with h | ⟨c1, hh, h | ⟨c2, hw, h⟩⟩
  · exact (beforeTransferHook_noPanic _ φ o c0 t p s h).elim
  · have : (wrappedApp (appWiring cfg π) φ c1 pkt).PanicsIn P := by simp only [wrappedApp, np]; exact fun c _ => hP c
    exact this s h
  · have : (processPayload (appWiring cfg π) φ o c2 t p).NoPanic := by
      simp only [processPayload, np, dispatchPayload_noPanic cfg π φ o c2 t p (hsane.after_app hh hw)]
    exact (this s h).elim

/-- **C14.** On the chain's wiring, for every packet (arbitrary bytes as data, any identifiers), every
module state, ledger, environment and fault oracle: the stack returns an acknowledgement. The only aborts
the model can exhibit are the two panics of ibc-go's own transfer module. -/
theorem c14_never_panics (cfg : Cfg) (π : OneofOrder) (φ : Faults) (o : OrbState) (c0 : Ctx) (pkt : Packet) (s : String)
    (hsane : IgpSane c0.ext) (h : (stackOnRecv (appWiring cfg π) φ o c0 pkt).ack = .panic s) : ibcGoPanic s := by
  unfold stackOnRecv at h
  cases hb : blockibcCheck c0 pkt with
  | err e => rw [hb] at h; cases h
  | panic e => exact (blockibcCheck_noPanic c0 pkt e hb).elim
  | ok u =>
    rw [hb] at h
    rcases mwOnRecv_panic h with ha | ⟨_, hi⟩ | ⟨t, p, _, hst⟩
    · exact (adaptPacket_noPanic _ pkt s ha).elim
    · exact ics20_panics_only_ibcgo _ c0 pkt s hi
    · exact orbiter_stages_panic hsane (fun c => ics20_panics_only_ibcgo cfg c pkt) hst

/-- For orbiter transfers the only abort is ibc-go's total-escrow invariant. -/
theorem c14_orbiter_transfer_panics_only_escrow (cfg : Cfg) (π : OneofOrder) (φ : Faults) (o : OrbState) (c0 : Ctx) (pkt : Packet)
    (t : TransferAttrs) (p : Payload) (ha : adaptPacket (appWiring cfg π) pkt = .ok (.orbiter t p)) (s : String)
    (hsane : IgpSane c0.ext) (h : (mwOnRecv (appWiring cfg π) φ o c0 pkt).ack = .panic s) : s = "ics20:total-escrow-negative" := by
  rcases mwOnRecv_panic h with ha' | ⟨ha', _⟩ | ⟨t', p', ha', hst⟩
  · rw [ha] at ha'; cases ha'
  · rw [ha] at ha'; cases ha'
  · cases ha.symm.trans ha'
    exact orbiter_stages_panic (P := (· = "ics20:total-escrow-negative")) hsane
      (fun c => ics20_orbiter_packet_only_escrow (appWiring cfg π) c pkt t p ha) hst

/-! ### non-vacuity: an environment with a gas paymaster as the mailbox default and a router with its own gas is sane -/
example : IgpSane { blocked := fun _ => false, totalEscrow := fun _ => 0, cctpDomain := fun _ => true,
                    hypHook := .igp "uusdc" 1 10000000000 1 50000, hypRouters := [([], 1, 50000)] } := by
  intro dn dom rate price overhead hm g hg
  simp only [ExtState.hooks, List.mem_cons, List.not_mem_nil, or_false, reduceCtorEq, Hook.igp.injEq] at hm
  obtain ⟨_, _, rfl, rfl, rfl⟩ := hm
  have hb : g < 18446744073709551616 := by
    rcases hg with hg | ⟨r, hr, rfl⟩
    · exact hg
    · simp only [List.mem_cons, List.not_mem_nil, or_false] at hr
      subst hr
      decide
  have : pow2_256 = 115792089237316195423570985008687907853269984665640564039457584007913129639936 := by decide
  rw [this]
  omega

end Orbiter.C14
