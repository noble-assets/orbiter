/-
  C19 — Processing is deterministic.
  The model is a function of (state, input, fault oracle) and of one explicit oracle: `π`, the order in
  which gogoproto's jsonpb visits the two members of the `fee_type` oneof when *both* are present in one
  fee entry (a Go map iteration). Proved here: that is the only place the order can matter — for every memo
  in which no JSON object carries both a `basis_points`/`basisPoints` key and an `amount` key, the decoder
  is independent of `π`; and since the repair `fa42fe7` the parser refuses the remaining memos before decoding
  them, so the parser and the whole receive path are independent of `π` for every input
  (`c19_recv_order_independent_all`).
  What Lean cannot express — error *texts* that name an arbitrary unknown field, wall-clock, addresses — is
  decided by the replay streams of the correspondence check only (second known finding of C19).
-/
import Orbiter.Lemmas.Jsonpb
import Orbiter.Props.C17
namespace Orbiter.C19
open Orbiter

theorem decFeeInfo_indep (π₁ π₂ : OneofOrder) (j : Json) (hj : j.ambiguous = false) : decFeeInfo π₁ j = decFeeInfo π₂ j := by
  unfold decFeeInfo
  refine Dec.bind_congr fun fs ho => ?_
  have hamb : fieldsAmbiguous fs = false := by
    rcases asObject_ok.mp ho with rfl | ⟨-, rfl⟩
    · exact (Json.ambiguous_obj.mp hj).1
    · rfl
  simp only
  refine Dec.bind_congr fun recipient _ => Dec.bind_congr fun bv hb => Dec.bind_congr fun av ha => Dec.bind_congr fun _ _ => ?_
  simp only [Dec.pure_eq, Dec.ok.injEq, FeeInfo.mk.injEq, true_and]
  apply pickFeeType_indep
  -- not both keys are present in this object
  simp only [fieldsAmbiguous, Bool.and_eq_false_iff, Bool.or_eq_false_iff] at hamb
  rcases hamb with ⟨h1, h2⟩ | h3
  · left
    rw [takeField_absent (hasKey_takeField_false h1) (hasKey_takeField_false h2)] at hb
    exact decOptMember_none hb
  · right
    rw [takeField_absent (hasKey_takeField_false (hasKey_takeField_false h3)) (hasKey_takeField_false (hasKey_takeField_false h3))] at ha
    exact decOptMember_none ha

theorem decFee_indep (π₁ π₂ : OneofOrder) {fs : Fields} (h : FieldsAll (·.ambiguous = false) fs) : decFee π₁ fs = decFee π₂ fs := by
  unfold decFee
  cases hf : (takeField fs "fees_info" "feesInfo").1 with
  | none => simp only [hf]
  | some v => simp only [hf, decRepeated_congr ambiguous_hereditary (h.takeField_val hf) (decFeeInfo_indep π₁ π₂)]

theorem decAny_indep (π₁ π₂ : OneofOrder) (j : Json) (hj : j.ambiguous = false) : decAny π₁ j = decAny π₂ j := by
  unfold decAny
  cases j with
  | obj fs =>
    simp only
    cases Json.lookupLast fs "@type" with
    | none => rfl
    | some t =>
      cases t with
      | str url p => simp only [decFee_indep π₁ π₂ ((ambiguous_hereditary.obj hj).eraseKey "@type")]
      | _ => rfl
  | _ => rfl

theorem decAction_indep (π₁ π₂ : OneofOrder) (j : Json) (hj : j.ambiguous = false) : decAction π₁ j = decAction π₂ j := by
  unfold decAction
  refine asObject_bind_congr ambiguous_hereditary hj fun fs hF => ?_
  simp only
  refine Res.bind_congr fun id _ => ?_
  cases ha : (takeField (takeField fs "id" "id").2 "attributes" "attributes").1 with
  | none => rfl
  | some v => simp only [decAny_indep π₁ π₂ v (hF.takeField_rest.takeField_val ha)]

theorem decForwarding_indep (π₁ π₂ : OneofOrder) (j : Json) (hj : j.ambiguous = false) : decForwarding π₁ j = decForwarding π₂ j := by
  unfold decForwarding
  refine asObject_bind_congr ambiguous_hereditary hj fun fs hF => ?_
  simp only
  refine Res.bind_congr fun pid _ => ?_
  cases ha : (takeField (takeField fs "protocol_id" "protocolId").2 "attributes" "attributes").1 with
  | none => rfl
  | some v => simp only [decAny_indep π₁ π₂ v (hF.takeField_rest.takeField_val ha)]

theorem decPayload_indep (π₁ π₂ : OneofOrder) (j : Json) (hj : j.ambiguous = false) : decPayload π₁ j = decPayload π₂ j := by
  rw [decPayload_eq, decPayload_eq]
  refine asObject_bind_congr ambiguous_hereditary hj fun fs hF => ?_
  refine Res.bind_congr₂ ?_ fun acts _ => Res.bind_congr₂ ?_ fun _ _ => rfl
  · cases hpa : (takeField fs "pre_actions" "preActions").1 with
    | none => rfl
    | some v => exact decRepeatedR_congr ambiguous_hereditary (hF.takeField_val hpa) (decAction_indep π₁ π₂)
  · cases hfw : (takeField (takeField fs "pre_actions" "preActions").2 "forwarding" "forwarding").1 with
    | none => rfl
    | some v => simp only [decForwarding_indep π₁ π₂ v (hF.takeField_rest.takeField_val hfw)]

theorem decWrapper_indep (π₁ π₂ : OneofOrder) (j : Json) (hj : j.ambiguous = false) : decWrapper π₁ j = decWrapper π₂ j := by
  unfold decWrapper
  refine asObject_bind_congr ambiguous_hereditary hj fun fs hF => ?_
  cases ho : (takeField fs Gen.orbiterPrefix Gen.orbiterPrefix).1 with
  | none => rfl
  | some v => rw [decOrbiterValue_some, decOrbiterValue_some, decPayload_indep π₁ π₂ v (hF.takeField_val ho)]

/-- **After the repair** (`fix: reject fee entries that set both members …`): ambiguous memos are refused before
they are decoded, so the parser does not depend on the order for *any* memo. -/
theorem c19_parser_order_independent_all (π₁ π₂ : OneofOrder) (memo : Bytes) : parsePayload π₁ memo = parsePayload π₂ memo := by
  unfold parsePayload
  cases parseJsonWhole memo with
  | none => rfl
  | some j =>
    simp only
    by_cases hamb : j.ambiguous = true
    · -- refused on both sides (or by an earlier guard, the same on both sides)
      cases j with
      | obj fs => simp only [hamb, ↓reduceIte]
      | _ => rfl
    · rw [decWrapper_indep π₁ π₂ j (by simpa using hamb)]

/-- The parser does not depend on the order unless some object of the memo carries both members (since the repair the hypothesis
is not needed: `c19_parser_order_independent_all`). -/
theorem c19_parser_order_independent (π₁ π₂ : OneofOrder) (memo : Bytes)
    (h : ∀ j, parseJsonWhole memo = some j → j.ambiguous = false) : parsePayload π₁ memo = parsePayload π₂ memo :=
  c19_parser_order_independent_all π₁ π₂ memo

/-- The receive path reads the oneof order of its wiring only where the memo is parsed, and the parser does not depend on it. -/
theorem stackOnRecv_indep (wr : Wiring) (π : OneofOrder) (φ : Faults) (o : OrbState) (c0 : Ctx) (pkt : Packet) :
    stackOnRecv { wr with π := π } φ o c0 pkt = stackOnRecv wr φ o c0 pkt := by
  have hacts : ∀ acts c t, dispatchActions { wr with π := π } φ o acts c t = dispatchActions wr φ o acts c t := by
    intro acts
    induction acts with
    | nil => exact fun _ _ => rfl
    | cons x rest ih => exact fun c t => Res.bind_congr fun r _ => ih r.1 r.2
  simp only [stackOnRecv, mwOnRecv, adaptPacket, processPayload, dispatchPayload, hacts, c19_parser_order_independent_all π wr.π]
  rfl

/-- …and so does the whole receive path, for every packet. -/
theorem c19_recv_order_independent_all (cfg : Cfg) (π₁ π₂ : OneofOrder) (φ : Faults) (o : OrbState) (c0 : Ctx) (pkt : Packet) :
    stackOnRecv (appWiring cfg π₁) φ o c0 pkt = stackOnRecv (appWiring cfg π₂) φ o c0 pkt :=
  stackOnRecv_indep (appWiring cfg π₂) π₁ φ o c0 pkt

/-- **C19 (model part).** The whole receive path is a function of the state, the packet and the fault oracle
alone, for every packet whose memo has no object with both oneof members (since the repair the hypothesis is not needed:
`c19_recv_order_independent_all`). -/
theorem c19_recv_order_independent (cfg : Cfg) (π₁ π₂ : OneofOrder) (φ : Faults) (o : OrbState) (c0 : Ctx) (pkt : Packet)
    (h : ∀ d j, decFTPD pkt.data = some d → parseJsonWhole (strBytes d.memo) = some j → j.ambiguous = false) :
    stackOnRecv (appWiring cfg π₁) φ o c0 pkt = stackOnRecv (appWiring cfg π₂) φ o c0 pkt :=
  c19_recv_order_independent_all cfg π₁ π₂ φ o c0 pkt

/-- What a node exports does not depend on the order in which its content came about: histories that leave the same pause sets,
limit and statistics export the same document (from `C17.c17_export_canonical`: every stored list is kept in key order). -/
theorem c19_export_order_irrelevant (wr : Wiring) (w : World) (ops₁ ops₂ : List Op) (hg : w.orb.Good)
    (he : (run wr w ops₁).orb.Equiv (run wr w ops₂).orb) :
    exportGenesis (run wr w ops₁).orb = exportGenesis (run wr w ops₂).orb :=
  C17.c17_export_canonical wr wr w w ops₁ ops₂ hg hg he

/-- The same input always gives the same output: the model is a function (stated for completeness). -/
theorem c19_function (wr : Wiring) (φ : Faults) (w : World) (p₁ p₂ : Packet) (h : p₁ = p₂) : ibcRecv wr φ w p₁ = ibcRecv wr φ w p₂ := by
  rw [h]

example : fieldsAmbiguous [("recipient", .str "a" true), ("basis_points", .obj []), ("amount", .obj [])] = true := by decide
example : fieldsAmbiguous [("recipient", .str "a" true), ("basis_points", .obj [])] = false := by decide

end Orbiter.C19
