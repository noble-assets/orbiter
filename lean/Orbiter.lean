import Orbiter.Prims
import Orbiter.Codec
import Orbiter.Json
import Orbiter.Types
import Orbiter.Gen.Facts
import Orbiter.Jsonpb
import Orbiter.Ids
import Orbiter.World
import Orbiter.Pure
import Orbiter.Recv
import Orbiter.Admin
import Orbiter.Step
import Orbiter.Encode
import Orbiter.Lemmas.Res
import Orbiter.Lemmas.Decimal
import Orbiter.Lemmas.Utf8
import Orbiter.Lemmas.Ids
import Orbiter.Props.C04
import Orbiter.Props.C20
import Orbiter.Lemmas.State
import Orbiter.Lemmas.Msg
import Orbiter.Lemmas.Validate
import Orbiter.Lemmas.Recv
import Orbiter.Lemmas.Genesis
import Orbiter.Props.C08
import Orbiter.Props.C09
import Orbiter.Props.C10
import Orbiter.Props.C18
import Orbiter.Lemmas.Ctx
import Orbiter.Props.C03
import Orbiter.Props.C05
import Orbiter.Props.C06
import Orbiter.Props.C07
import Orbiter.Props.C12
import Orbiter.Lemmas.Inv
import Orbiter.Lemmas.Reach
import Orbiter.Props.C16
import Orbiter.Props.C17
import Orbiter.Props.C01
import Orbiter.Props.C02
import Orbiter.Lemmas.Jsonpb
import Orbiter.Lemmas.NpAttr
import Orbiter.Lemmas.NoPanic
import Orbiter.Props.C14
import Orbiter.Lemmas.Ascii
import Orbiter.Lemmas.Encode
import Orbiter.Lemmas.JsonText
import Orbiter.Lemmas.Marshal
import Orbiter.Lemmas.TextOk
import Orbiter.Props.C15
import Orbiter.Props.C19
import Orbiter.Props.C13
import Orbiter.Lemmas.Perturb
import Orbiter.Props.C11
import Orbiter.Lemmas.Order
import Orbiter.Lemmas.Sorted
import Orbiter.Lemmas.Canonical
import Orbiter.Lemmas.PrefixEnd
import Orbiter.Lemmas.KeyCodec
